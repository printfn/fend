/-
The five mutually recursive types (`Value`, key-value lists, `Expr`, `Scope`, optional scope): their sizes, what of them is
representable, and `rt_fuel`: with fuel `f` each reader reads back every representable value of size at most `f`.  Then the
variable table, whose reader fixes its fuel at the input length + 1: a value of size `n` writes at least `n` bytes (`sizeX_le`; a
key-value list `n - 1`).
-/
import FendModel.Proofs.SerializeLeaf

namespace Fend.Ser

-- one per node: the fuel the readers spend, one unit per recursive call (`rt_fuel`), and a lower bound on the bytes written (`sizeV_le`)
mutual
def sizeV : Value → Nat
  | .fn _ e s => sizeE e + sizeO s + 1
  | .object kvs => sizeK kvs + 1
  | _ => 1
def sizeK : KVs → Nat
  | .nil => 1
  | .cons _ v r => sizeV v + sizeK r + 1
def sizeE : Expr → Nat
  | .literal v => sizeV v + 1
  | .ident _ => 1
  | .parens e | .unaryMinus e | .unaryPlus e | .unaryDiv e | .factorial e => sizeE e + 1
  | .bop _ a b | .apply a b | .applyFunctionCall a b | .applyMul a b | .as_ a b | .statements a b
  | .equality _ a b => sizeE a + sizeE b + 1
  | .fn _ e | .of_ _ e | .assign _ e => sizeE e + 1
def sizeS : Scope → Nat
  | .mk _ e vs inner => sizeE e + sizeO vs + sizeO inner + 1
def sizeO : OptScope → Nat
  | .none => 1
  | .some s => sizeS s + 1
end

-- representable: what reads back (lengths below 2^64, valid UTF-8, non-zero denominators, …)
mutual
def RepV : Value → Prop
  | .num n => NumberRep n
  | .builtin i => i < builtinNames.length
  | .format f => FmtRep f
  | .dp | .sf | .unit | .bool _ => True
  | .base b => BaseRep b
  | .fn p e s => StrRep p ∧ RepE e ∧ RepO s
  | .object kvs => U64 kvs.length ∧ RepK kvs
  | .string s => StrRep s
  | .month m => 1 ≤ m ∧ m ≤ 12
  | .dayOfWeek d => d ≤ 6
  | .date d => DateRep d
def RepK : KVs → Prop
  | .nil => True
  | .cons k v r => StrRep k ∧ RepV v ∧ RepK r
def RepE : Expr → Prop
  | .literal v => RepV v
  | .ident s => StrRep s
  | .parens e | .unaryMinus e | .unaryPlus e | .unaryDiv e | .factorial e => RepE e
  | .bop op a b => op ≤ 13 ∧ RepE a ∧ RepE b
  | .apply a b | .applyFunctionCall a b | .applyMul a b | .as_ a b | .statements a b
  | .equality _ a b => RepE a ∧ RepE b
  | .fn s e | .of_ s e | .assign s e => StrRep s ∧ RepE e
def RepS : Scope → Prop
  | .mk i e vs inner => StrRep i ∧ RepE e ∧ RepO vs ∧ RepO inner
def RepO : OptScope → Prop
  | .none => True
  | .some s => RepS s
end

theorem sizeV_pos (v : Value) : 1 ≤ sizeV v := by cases v <;> exact Nat.succ_le_succ (Nat.zero_le _)
theorem sizeE_pos (e : Expr) : 1 ≤ sizeE e := by cases e <;> exact Nat.succ_le_succ (Nat.zero_le _)
theorem sizeK_pos (k : KVs) : 1 ≤ sizeK k := by cases k <;> exact Nat.succ_le_succ (Nat.zero_le _)
theorem sizeS_pos (s : Scope) : 1 ≤ sizeS s := by cases s; exact Nat.succ_le_succ (Nat.zero_le _)
theorem sizeO_pos (o : OptScope) : 1 ≤ sizeO o := by cases o <;> exact Nat.succ_le_succ (Nat.zero_le _)

theorem rt_fuel (f : Nat) :
    RT (fun v => RepV v ∧ sizeV v ≤ f) serValue (deValue f) ∧
    (∀ n, RT (fun k => k.length = n ∧ RepK k ∧ sizeK k ≤ f) serKVs (deKVs f n)) ∧
    RT (fun e => RepE e ∧ sizeE e ≤ f) serExpr (deExpr f) ∧
    RT (fun s => RepS s ∧ sizeS s ≤ f) serScope (deScope f) ∧
    RT (fun o => RepO o ∧ sizeO o ≤ f) serOptScope (deOptScope f) := by
  induction f with
  | zero =>
    exact ⟨fun v h => (nomatch Nat.le_trans (sizeV_pos v) h.2), fun _ k h => (nomatch Nat.le_trans (sizeK_pos k) h.2.2),
      fun e h => (nomatch Nat.le_trans (sizeE_pos e) h.2), fun s h => (nomatch Nat.le_trans (sizeS_pos s) h.2),
      fun o h => (nomatch Nat.le_trans (sizeO_pos o) h.2)⟩
  | succ f ih =>
    obtain ⟨ihV, ihK, ihE, ihS, ihO⟩ := ih
    refine ⟨fun v ⟨h, hf⟩ rest => ?_, fun _ k ⟨rfl, h, hf⟩ rest => ?_, fun e ⟨h, hf⟩ rest => ?_,
      fun s ⟨h, hf⟩ rest => ?_, fun o ⟨h, hf⟩ rest => ?_⟩
    · -- The reader is unfolded only once the tag byte heads the input, and `↓` takes the branch of that tag
      -- before `simp` has looked at the others; simplifying the whole `if` ladder first costs four times as much.
      -- Of `hf` there remains: the sizes of the children add up to at most `f`.
      cases v <;>
        simp only [serValue, sizeV, RepV, Nat.add_le_add_iff_right, List.cons_append, List.nil_append,
          List.append_assoc] at h hf ⊢ <;>
        rw [deValue] <;>
        simp only [↓tag_step, ↓reduceIte, Nat.reduceEqDiff]
      case num => exact rtNumber.step h
      case builtin => exact rtBuiltin.step h
      case format => exact rtFmt.step h
      case base => exact rtBase.step h
      case fn =>
        rw [rtStr.step h.1, ihE.step ⟨h.2.1, Nat.le_of_add_right_le hf⟩, ihO.step ⟨h.2.2, Nat.le_of_add_left_le hf⟩]
      case object => rw [rtU64.step h.1, (ihK _).step ⟨rfl, h.2, hf⟩]
      case string => exact rtStr.step h
      case bool => exact rtBool.step trivial
      case month => exact rtMonth.step h
      case dayOfWeek => exact if_pos h
      case date => exact rtDate.step h
    · cases k <;>
        simp only [serKVs, deKVs, KVs.length, sizeK, Nat.add_le_add_iff_right, List.nil_append, List.append_assoc] at hf ⊢
      rw [rtStr.step h.1, ihV.step ⟨h.2.1, Nat.le_of_add_right_le hf⟩,
        (ihK _).step ⟨rfl, h.2.2, Nat.le_of_add_left_le hf⟩]
    · cases e <;>
        simp only [serExpr, sizeE, RepE, Nat.add_le_add_iff_right, List.cons_append, List.nil_append,
          List.append_assoc] at h hf ⊢ <;>
        rw [deExpr] <;>
        simp only [↓tag_step, ↓reduceIte, Nat.reduceEqDiff]
      case literal => exact ihV.step ⟨h, hf⟩
      case ident => exact rtStr.step h
      case parens | unaryMinus | unaryPlus | unaryDiv | factorial => exact ihE.step ⟨h, hf⟩
      case bop =>
        rw [if_pos h.1, ihE.step ⟨h.2.1, Nat.le_of_add_right_le hf⟩, ihE.step ⟨h.2.2, Nat.le_of_add_left_le hf⟩]
      case apply | applyFunctionCall | applyMul | as_ | statements =>
        rw [ihE.step ⟨h.1, Nat.le_of_add_right_le hf⟩, ihE.step ⟨h.2, Nat.le_of_add_left_le hf⟩]
      case fn | of_ | assign => rw [rtStr.step h.1, ihE.step ⟨h.2, hf⟩]
      case equality =>
        rw [rtBool.step trivial, ihE.step ⟨h.1, Nat.le_of_add_right_le hf⟩, ihE.step ⟨h.2, Nat.le_of_add_left_le hf⟩]
    · cases s
      simp only [serScope, deScope, sizeS, Nat.add_le_add_iff_right, List.append_assoc] at hf ⊢
      rw [rtStr.step h.1, ihE.step ⟨h.2.1, Nat.le_of_add_right_le (Nat.le_of_add_right_le hf)⟩,
        ihO.step ⟨h.2.2.1, Nat.le_of_add_left_le (Nat.le_of_add_right_le hf)⟩,
        ihO.step ⟨h.2.2.2, Nat.le_of_add_left_le hf⟩]
    · cases o <;>
        simp only [serOptScope, deOptScope, sizeO, Nat.add_le_add_iff_right, List.cons_append, List.nil_append] at hf ⊢
      · rfl
      · exact (rtBool.step (a := true) trivial).trans (ihS.step ⟨h, hf⟩)

theorem deKVs_ser : ∀ (k : KVs) (fuel : Nat) (rest : Bytes), RepK k → sizeK k ≤ fuel →
    deKVs fuel k.length (serKVs k ++ rest) = .ok (k, rest) :=
  fun k fuel rest h hf => (rt_fuel fuel).2.1 _ k ⟨rfl, h, hf⟩ rest

theorem deExpr_ser : ∀ (e : Expr) (fuel : Nat) (rest : Bytes), RepE e → sizeE e ≤ fuel →
    deExpr fuel (serExpr e ++ rest) = .ok (e, rest) :=
  fun e fuel rest h hf => (rt_fuel fuel).2.2.1 e ⟨h, hf⟩ rest

theorem deScope_ser : ∀ (s : Scope) (fuel : Nat) (rest : Bytes), RepS s → sizeS s ≤ fuel →
    deScope fuel (serScope s ++ rest) = .ok (s, rest) :=
  fun s fuel rest h hf => (rt_fuel fuel).2.2.2.1 s ⟨h, hf⟩ rest

theorem serStr_length (s : Str) : (serStr s).length = 8 + s.length := by simp [serStr, serU64_length]

mutual
theorem sizeV_le : ∀ v : Value, sizeV v ≤ (serValue v).length
  | .fn p e s => by
    have := sizeE_le e; have := sizeO_le s
    simp only [sizeV, serValue, List.length_append, List.length_cons, List.length_nil]; omega
  | .object kvs => by
    have := sizeK_le kvs
    simp only [sizeV, serValue, List.length_append, List.length_cons, List.length_nil, serU64_length]; omega
  | .num _ | .builtin _ | .format _ | .dp | .sf | .base _ | .string _ | .unit | .bool _ | .month _
  | .dayOfWeek _ | .date _ => Nat.succ_le_succ (Nat.zero_le _)
theorem sizeK_le : ∀ k : KVs, sizeK k ≤ (serKVs k).length + 1
  | .nil => Nat.le_refl _
  | .cons k v r => by
    have := sizeV_le v; have := sizeK_le r
    simp only [sizeK, serKVs, List.length_append, serStr_length]; omega
theorem sizeE_le : ∀ e : Expr, sizeE e ≤ (serExpr e).length
  | .literal v => Nat.succ_le_succ (sizeV_le v)
  | .ident _ => Nat.succ_le_succ (Nat.zero_le _)
  | .parens e | .unaryMinus e | .unaryPlus e | .unaryDiv e | .factorial e => Nat.succ_le_succ (sizeE_le e)
  | .bop _ a b | .apply a b | .applyFunctionCall a b | .applyMul a b | .as_ a b | .statements a b
  | .equality _ a b => by
    have := sizeE_le a; have := sizeE_le b
    simp only [sizeE, serExpr, List.length_append, List.length_cons, List.length_nil]; omega
  | .fn _ e | .of_ _ e | .assign _ e => by
    have := sizeE_le e
    simp only [sizeE, serExpr, List.length_append, List.length_cons, List.length_nil]; omega
theorem sizeS_le : ∀ s : Scope, sizeS s ≤ (serScope s).length
  | .mk i e vs inner => by
    have := sizeE_le e; have := sizeO_le vs; have := sizeO_le inner
    simp only [sizeS, serScope, List.length_append, serStr_length]; omega
theorem sizeO_le : ∀ o : OptScope, sizeO o ≤ (serOptScope o).length
  | .none => Nat.le_refl _
  | .some s => Nat.succ_le_succ (sizeS_le s)
end

def VarsRep (vars : List (Str × Value)) : Prop :=
  vars.length < 18446744073709551616 ∧ ∀ p ∈ vars, StrRep p.1 ∧ RepV p.2

theorem sizeV_le_serVars {vars : List (Str × Value)} {p : Str × Value} (hp : p ∈ vars) :
    sizeV p.2 ≤ (serVars vars).length := by
  have h1 := sizeV_le p.2
  have h2 := (List.sublist_flatten_of_mem (List.mem_map_of_mem
    (f := fun p : Str × Value => serStr p.1 ++ serValue p.2) hp)).length_le
  simp only [serVars, List.flatMap, List.length_append] at h2 ⊢
  omega

theorem rtVars (fuel : Nat) :
    RT (fun vars => VarsRep vars ∧ ∀ p ∈ vars, sizeV p.2 ≤ fuel) serVars
      (fun bs => andThen (deU64 bs) (deVarsN fuel)) := fun vars h rest => by
  simp only [serVars, List.append_assoc, rtU64.step h.1.1]
  obtain ⟨⟨-, h⟩, hf⟩ := h
  induction vars with
  | nil => rfl
  | cons p ps ih =>
    obtain ⟨hp, hps⟩ := List.forall_mem_cons.1 h
    obtain ⟨hfp, hfps⟩ := List.forall_mem_cons.1 hf
    simp only [List.length_cons, List.flatMap_cons, List.append_assoc, deVarsN, rtStr.step hp.1,
      (rt_fuel fuel).1.step ⟨hp.2, hfp⟩, ih hfps hps, andThen_ok]

end Fend.Ser
