/-
Every `BigUint` is read through its list `limbs`: `val`, `get`, `valueLen`, `WF` and `set` are given as functions of `limbs`
here, so that later files seldom split on `small`/`large`.
Loops over limb indices keep `valFrom a i` (the number written from limb `i` upwards) invariant:
by `valFrom a i = a.get i + B * valFrom a (i + 1)` one loop step is linear arithmetic with the literal `B`.
-/
import FendModel.Model.BigUint
import Mathlib.Tactic.Ring

namespace Fend.BigUint

theorem B_pos : 0 < B := by decide

theorem B_pow : B = 2 ^ 64 := by decide

theorem B_two : B = 2 * 9223372036854775808 := rfl

theorem B_pow_eq (i : Nat) : B ^ i = 2 ^ (64 * i) := by rw [B_pow, ← pow_mul]

def WFL (v : List Nat) : Prop := ∀ x ∈ v, x < B

theorem WFL_nil : WFL [] := fun _ h => nomatch h

theorem WFL_cons {x : Nat} {xs : List Nat} : WFL (x :: xs) ↔ x < B ∧ WFL xs := List.forall_mem_cons

theorem WFL_append {v w : List Nat} : WFL (v ++ w) ↔ WFL v ∧ WFL w := List.forall_mem_append

theorem WFL_zeros (k : Nat) : WFL (List.replicate k 0) := fun _ h => List.eq_of_mem_replicate h ▸ B_pos

theorem val_small (n : Nat) : val (small n) = n := rfl

theorem zero_WF : (small 0).WF := B_pos

theorem one_WF : (small 1).WF := by show 1 < B; decide

theorem two_WF : (small 2).WF := by show 2 < B; decide

theorem val_eq_limbs (b : BigUint) : b.val = valL b.limbs := by
  cases b <;> simp [val, limbs, valL]

theorem get_eq_limbs (b : BigUint) (j : Nat) : b.get j = b.limbs.getD j 0 := by
  cases b with
  | small n => cases j <;> rfl
  | large v => rfl

theorem valueLen_eq_limbs (b : BigUint) : b.valueLen = b.limbs.length := by
  cases b <;> rfl

theorem WF_iff_limbs (b : BigUint) : b.WF ↔ WFL b.limbs := by
  cases b <;> simp [WF, WFL, limbs]

theorem add_mul_mod_B (x X : Nat) (hx : x < B) : (x + B * X) % B = x := by
  rw [Nat.add_mul_mod_self_left, Nat.mod_eq_of_lt hx]

theorem add_mul_div_B (x X : Nat) (hx : x < B) : (x + B * X) / B = X := by
  rw [Nat.add_mul_div_left _ _ B_pos, Nat.div_eq_of_lt hx, Nat.zero_add]

theorem valL_append (v w : List Nat) : valL (v ++ w) = valL v + B ^ v.length * valL w := by
  induction v with
  | nil => simp [valL]
  | cons x xs ih => simp only [List.cons_append, valL, ih, List.length_cons, pow_succ]; ring

theorem valL_replicate_zero (k : Nat) : valL (List.replicate k 0) = 0 := by
  induction k with
  | zero => rfl
  | succ k ih => simp [List.replicate_succ, valL, ih]

theorem valL_append_zeros (v : List Nat) (k : Nat) : valL (v ++ List.replicate k 0) = valL v := by
  rw [valL_append, valL_replicate_zero, Nat.mul_zero, Nat.add_zero]

/-- the way `sub` and `or`/`xor` lengthen the shorter operand -/
theorem pad_zeros (v : List Nat) (n : Nat) :
    (if v.length < n then v ++ List.replicate (n - v.length) 0 else v)
      = v ++ List.replicate (n - v.length) 0 := by
  split
  · rfl
  · rw [Nat.sub_eq_zero_of_le (Nat.le_of_not_lt ‹_›), List.replicate_zero, List.append_nil]

theorem length_pad (v : List Nat) (n : Nat) :
    (v ++ List.replicate (n - v.length) 0).length = max v.length n := by
  rw [List.length_append, List.length_replicate, Nat.add_comm, Nat.sub_add_eq_max, Nat.max_comm]

theorem le_length_pad (v : List Nat) (n : Nat) : n ≤ (v ++ List.replicate (n - v.length) 0).length :=
  length_pad v n ▸ Nat.le_max_right _ _

theorem valL_drop (v : List Nat) (i : Nat) :
    valL (v.drop i) = v.getD i 0 + B * valL (v.drop (i + 1)) := by
  induction v generalizing i with
  | nil => rw [List.drop_nil, List.drop_nil]; rfl
  | cons x xs ih => cases i with
    | zero => rfl
    | succ i => exact ih i

theorem valL_lt (v : List Nat) (h : WFL v) : valL v < B ^ v.length := by
  induction v with
  | nil => simp [valL]
  | cons x xs ih =>
    have := ih (WFL_cons.mp h).2
    have := (WFL_cons.mp h).1
    rw [valL, List.length_cons, pow_succ']
    generalize B ^ xs.length = P at *
    simp only [B] at *
    omega

theorem valL_eq_zero (v : List Nat) : valL v = 0 ↔ v.all (· == 0) = true := by
  induction v with
  | nil => simp [valL]
  | cons x xs ih => simp [valL, ← ih, B]

def valFrom (a : BigUint) (i : Nat) : Nat := valL (a.limbs.drop i)

theorem valFrom_zero (a : BigUint) : valFrom a 0 = val a := (val_eq_limbs a).symm

theorem valFrom_succ (a : BigUint) (i : Nat) : valFrom a i = a.get i + B * valFrom a (i + 1) := by
  rw [get_eq_limbs]; exact valL_drop _ i

theorem valFrom_of_le (a : BigUint) (i : Nat) (h : a.valueLen ≤ i) : valFrom a i = 0 := by
  rw [valFrom, List.drop_of_length_le (by rwa [← valueLen_eq_limbs])]; rfl

theorem get_of_le (a : BigUint) (i : Nat) (h : a.valueLen ≤ i) : a.get i = 0 := by
  rw [get_eq_limbs, List.getD_eq_getElem?_getD, List.getElem?_eq_none (valueLen_eq_limbs a ▸ h)]; rfl

theorem get_lt (a : BigUint) (h : a.WF) (i : Nat) : a.get i < B := by
  rw [get_eq_limbs, List.getD_eq_getElem?_getD]
  cases hi : a.limbs[i]? with
  | none => exact B_pos
  | some x => exact (WF_iff_limbs a).mp h x (List.mem_of_getElem? hi)

theorem valFrom_eq_div (a : BigUint) (ha : a.WF) (i : Nat) : valFrom a i = val a / B ^ i := by
  induction i with
  | zero => simp [valFrom_zero]
  | succ i ih =>
    rw [pow_succ, ← Nat.div_div_eq_div_mul, ← ih, valFrom_succ a i, add_mul_div_B _ _ (get_lt a ha i)]

theorem get_eq_div_mod (a : BigUint) (ha : a.WF) (i : Nat) : a.get i = val a / B ^ i % B := by
  rw [← valFrom_eq_div a ha, valFrom_succ, add_mul_mod_B _ _ (get_lt a ha i)]

theorem val_lt_pow_len (a : BigUint) (ha : a.WF) : val a < B ^ a.valueLen := by
  rw [val_eq_limbs, valueLen_eq_limbs]; exact valL_lt _ ((WF_iff_limbs a).mp ha)

theorem isZero_iff (b : BigUint) : b.isZero = true ↔ val b = 0 := by
  cases b with
  | small n => simp [isZero, val]
  | large v => exact (valL_eq_zero v).symm

theorem getD_append_zeros (v : List Nat) (k i : Nat) :
    (v ++ List.replicate k 0).getD i 0 = v.getD i 0 := by
  simp only [List.getD_eq_getElem?_getD, List.getElem?_append, List.getElem?_replicate]
  split
  · rfl
  · rw [List.getElem?_eq_none (by omega)]; split <;> rfl

theorem valL_set (v : List Nat) (i x : Nat) (h : i < v.length) :
    valL (v.set i x) + v.getD i 0 * B ^ i = valL v + x * B ^ i := by
  have hv : valL v = valL (v.take i) + B ^ i * (v.getD i 0 + B * valL (v.drop (i + 1))) := by
    conv_lhs => rw [← List.take_append_drop i v]
    rw [valL_append, List.length_take, Nat.min_eq_left h.le, valL_drop]
  rw [List.set_eq_take_append_cons_drop, if_pos h, valL_append, List.length_take,
    Nat.min_eq_left h.le, hv, valL]
  ring

theorem valL_setL (v : List Nat) (i x : Nat) :
    valL (setL v i x) + v.getD i 0 * B ^ i = valL v + x * B ^ i := by
  have := valL_set (v ++ List.replicate (i + 1 - v.length) 0) i x (le_length_pad v (i + 1))
  rwa [getD_append_zeros, valL_append_zeros] at this

theorem getD_setL (v : List Nat) (i x j : Nat) :
    (setL v i x).getD j 0 = if j = i then x else v.getD j 0 := by
  rw [setL, List.getD_eq_getElem?_getD, List.getElem?_set]
  split
  · subst j; rw [if_pos (Nat.lt_of_succ_le (le_length_pad v (i + 1))), if_pos rfl]; rfl
  · rw [← List.getD_eq_getElem?_getD, getD_append_zeros, if_neg (Ne.symm ‹_›)]

theorem WFL_append_zeros (v : List Nat) (k : Nat) (h : WFL v) : WFL (v ++ List.replicate k 0) :=
  WFL_append.mpr ⟨h, WFL_zeros k⟩

theorem WFL_setL (v : List Nat) (i x : Nat) (hv : WFL v) (hx : x < B) : WFL (setL v i x) := by
  intro y hy
  rcases List.mem_or_eq_of_mem_set hy with h | h
  · exact WFL_append_zeros v _ hv y h
  · rw [h]; exact hx

theorem length_setL (v : List Nat) (i x : Nat) : (setL v i x).length = max v.length (i + 1) := by
  rw [setL, List.length_set, length_pad]

/-- `set` writes limb `i` of the limb vector, except that a zero written above a `small` is dropped -/
theorem limbs_set (s : BigUint) (i x : Nat) :
    (s.set i x).limbs = setL s.limbs i x ∨ (s.set i x = s ∧ x = 0 ∧ s.valueLen ≤ i ∧ s.limbs ≠ []) := by
  fun_cases BigUint.set s i x with
  | case1 n x => exact .inl rfl
  | case2 n i hi => exact .inr ⟨rfl, rfl, Nat.pos_of_ne_zero hi, List.cons_ne_nil _ _⟩
  | case3 n i x hi hx => exact .inl rfl
  | case4 v i x => exact .inl rfl

theorem val_set (s : BigUint) (i x : Nat) :
    val (s.set i x) + s.get i * B ^ i = val s + x * B ^ i := by
  rcases limbs_set s i x with h | ⟨h, rfl, hi, _⟩
  · rw [val_eq_limbs, h, get_eq_limbs, val_eq_limbs]; exact valL_setL _ i x
  · rw [h, get_of_le s i hi]

theorem get_set (s : BigUint) (i x j : Nat) :
    (s.set i x).get j = if j = i then x else s.get j := by
  rcases limbs_set s i x with h | ⟨h, rfl, hi, _⟩
  · rw [get_eq_limbs, h, get_eq_limbs]; exact getD_setL _ i x j
  · rw [h]; split
    · subst_vars; exact get_of_le s _ hi
    · rfl

theorem WF_set (s : BigUint) (i x : Nat) (hs : s.WF) (hx : x < B) : (s.set i x).WF := by
  rcases limbs_set s i x with h | ⟨h, _⟩
  · rw [WF_iff_limbs, h]; exact WFL_setL _ i x ((WF_iff_limbs s).mp hs) hx
  · rwa [h]

theorem set_limbs_ne (s : BigUint) (i x : Nat) : (s.set i x).limbs ≠ [] := by
  rcases limbs_set s i x with h | ⟨h, _, _, hne⟩
  · rw [h, ← List.length_pos_iff, length_setL]; omega
  · rwa [h]

/-- `a << (64 * k)`: the operand that `add_assign_internal` reads and the splice of `lshift_n` -/
def shiftLimbs (a : BigUint) (k : Nat) : BigUint := large (List.replicate k 0 ++ a.limbs)

theorem limbs_shiftLimbs (a : BigUint) (k : Nat) : (shiftLimbs a k).limbs = List.replicate k 0 ++ a.limbs := rfl

theorem val_shiftLimbs (a : BigUint) (k : Nat) : val (shiftLimbs a k) = B ^ k * val a := by
  rw [shiftLimbs, val, valL_append, valL_replicate_zero, List.length_replicate, val_eq_limbs, Nat.zero_add]

theorem valueLen_shiftLimbs (a : BigUint) (k : Nat) : (shiftLimbs a k).valueLen = k + a.valueLen := by
  rw [shiftLimbs, valueLen, List.length_append, List.length_replicate, valueLen_eq_limbs]

theorem WF_shiftLimbs (a : BigUint) (k : Nat) (ha : a.WF) : (shiftLimbs a k).WF :=
  WFL_append.mpr ⟨WFL_zeros k, (WF_iff_limbs a).mp ha⟩

theorem get_shiftLimbs (a : BigUint) (k i : Nat) :
    (shiftLimbs a k).get i = if i ≥ k then a.get (i - k) else 0 := by
  rw [get_eq_limbs, get_eq_limbs, limbs_shiftLimbs, List.getD_eq_getElem?_getD, List.getD_eq_getElem?_getD]
  split
  · rw [List.getElem?_append_right (by rwa [List.length_replicate]), List.length_replicate]
  · rw [List.getElem?_append_left (by rw [List.length_replicate]; omega), List.getElem?_replicate,
      if_pos (by omega)]; rfl

theorem fitsU64_iff (b : BigUint) : b.fitsU64 = true ↔ valFrom b 1 = 0 := by
  cases b with
  | small n => exact ⟨fun _ => rfl, fun _ => rfl⟩
  | large v => exact (valL_eq_zero _).symm

theorem get0_of_fits (b : BigUint) (h : b.fitsU64 = true) : b.get 0 = val b := by
  rw [← valFrom_zero, valFrom_succ b 0, (fitsU64_iff b).mp h, Nat.mul_zero, Nat.add_zero]

theorem fitsU64_iff_lt (b : BigUint) (hb : b.WF) : b.fitsU64 = true ↔ val b < B := by
  rw [fitsU64_iff, valFrom_eq_div b hb, pow_one, Nat.div_eq_zero_iff_lt B_pos]

theorem tryAsUsize_of_fits (rhs : BigUint) (hf : rhs.fitsU64 = true) : tryAsUsize rhs = .ok (val rhs) := by
  rw [tryAsUsize, if_pos hf, get0_of_fits rhs hf]

end Fend.BigUint
