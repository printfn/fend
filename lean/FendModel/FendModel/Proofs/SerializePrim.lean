/-
Round trips of the serialization format: the notion `RT`, the lemmas that build the round trip of a
composite from those of its parts, and the primitives.
-/
import FendModel.Model.Serialize

namespace Fend.Ser

theorem andThen_ok {α β} (a : α) (bs : Bytes) (f : α → Bytes → Except DErr (β × Bytes)) :
    andThen (.ok (a, bs)) f = f a bs := rfl

theorem andThen_eq_ok {α β} {r : Except DErr (α × Bytes)} {k : α → Bytes → Except DErr (β × Bytes)} {y} :
    andThen r k = .ok y ↔ ∃ a bs, r = .ok (a, bs) ∧ k a bs = .ok y := by
  rcases r with e | ⟨a, bs⟩
  · simp [andThen]
  · exact ⟨fun h => ⟨a, bs, rfl, h⟩, fun ⟨_, _, h1, h2⟩ => by cases h1; exact h2⟩

theorem if_eq_iff {α} {c : Prop} [Decidable c] {x y z : α} :
    (if c then x else y) = z ↔ c ∧ x = z ∨ ¬c ∧ y = z := by
  split <;> simp [*]

def RT {α} (P : α → Prop) (s : α → Bytes) (d : D α) : Prop :=
  ∀ a, P a → ∀ rest, d (s a ++ rest) = .ok (a, rest)

def U64 (n : Nat) : Prop := n < 18446744073709551616

def be : Nat → Nat → Bytes
  | 0, _ => []
  | k + 1, n => n / 256 ^ k % 256 :: be k n

def beVal (acc : Nat) : Bytes → Nat
  | [] => acc
  | b :: bs => beVal (acc * 256 + b) bs

theorem beVal_be (k n acc : Nat) : beVal acc (be k n) = acc * 256 ^ k + n % 256 ^ k := by
  induction k generalizing acc with
  | zero => simp [be, beVal, Nat.mod_one]
  | succ k ih =>
    rw [be, beVal, ih, Nat.mod_pow_succ, Nat.pow_succ, Nat.add_mul, Nat.mul_assoc, Nat.mul_comm 256,
      Nat.mul_comm (256 ^ k) (_ % 256), Nat.add_assoc, Nat.add_comm (_ % 256 * _)]

theorem beVal_be_of_lt {k n : Nat} (h : n < 256 ^ k) : beVal 0 (be k n) = n := by
  rw [beVal_be, Nat.zero_mul, Nat.zero_add, Nat.mod_eq_of_lt h]

theorem serU64_eq_be (n : Nat) : serU64 n = be 8 n := by
  simp only [serU64, be, Nat.reducePow, Nat.div_one]

theorem serI32_eq_be (i : Int) : serI32 i = be 4 (i % 4294967296).toNat := by
  simp only [serI32, be, Nat.reducePow, Nat.div_one]

theorem deU64_append : ∀ l : Bytes, l.length = 8 → ∀ r, deU64 (l ++ r) = .ok (beVal 0 l, r)
  | [a, b, c, d, e, f, g, h], _, r => by
    -- Horner form to the weighted sum `deU64` computes
    simp only [beVal, Nat.zero_mul, Nat.zero_add, Nat.add_mul, Nat.mul_assoc, Nat.reduceMul]
    rfl

theorem deI32_append : ∀ l : Bytes, l.length = 4 → ∀ r, deI32 (l ++ r) =
    .ok (if beVal 0 l ≥ 2147483648 then (beVal 0 l : Int) - 4294967296 else beVal 0 l, r)
  | [a, b, c, d], _, r => by
    simp only [beVal, Nat.zero_mul, Nat.zero_add, Nat.add_mul, Nat.mul_assoc, Nat.reduceMul]
    rfl

theorem deU8_cons (n : Nat) (rest : Bytes) : deU8 (n :: rest) = .ok (n, rest) := rfl

theorem serU64_length (n : Nat) : (serU64 n).length = 8 := rfl

/-- reading one byte (a tag, a base, a month).  Not by `rfl`, and where a fixed-width integer is read `andThen_ok` is kept out
of the `simp` sets: a `simp` step that
is a definitional unfolding leaves no proof term, and the kernel, re-checking a chain of them, evaluates
`deU64 (serU64 n ++ _)` for a variable `n` (division by recursion on `n`) and does not come back. -/
theorem tag_step {γ} (t : Nat) (bs : Bytes) (k : Nat → Bytes → Except DErr (γ × Bytes)) :
    andThen (deU8 (t :: bs)) k = k t bs := by
  rw [deU8_cons, andThen_ok]

theorem rtU8 : RT (fun _ => True) serU8 deU8 := fun _ _ _ => rfl

theorem rtU64 : RT U64 serU64 deU64 := fun n h rest => by
  rw [deU64_append _ (serU64_length n), serU64_eq_be, beVal_be_of_lt h]

theorem rtBool : RT (fun _ => True) serBool deBool := fun b _ rest => by
  cases b <;> rfl

theorem rtI32 : RT (fun i : Int => -2147483648 ≤ i ∧ i < 2147483648) serI32 deI32 := fun i h rest => by
  -- not referred to by name: with it in the context the two `omega`s below have less to do
  have e : ((i % 4294967296).toNat : Int) = i % 4294967296 := Int.toNat_of_nonneg (by omega)
  rw [deI32_append _ rfl, serI32_eq_be, beVal_be_of_lt (k := 4) (by omega)]
  congr 2
  split <;> omega

namespace RT
variable {α β γ : Type} {P : α → Prop} {s : α → Bytes} {d : D α}

theorem step (h : RT P s d) {a : α} (ha : P a) {rest : Bytes} {k : α → Bytes → Except DErr (γ × Bytes)} :
    andThen (d (s a ++ rest)) k = k a rest := by
  rw [h a ha, andThen_ok]

theorem pair {Q : β → Prop} {t : β → Bytes} {e : D β} (h : RT P s d) (h' : RT Q t e) :
    RT (fun p : α × β => P p.1 ∧ Q p.2) (fun p => s p.1 ++ t p.2)
      (fun bs => andThen (d bs) fun a bs => andThen (e bs) fun b bs => .ok ((a, b), bs)) :=
  fun _ hp rest => by simp only [List.append_assoc, h.step hp.1, h'.step hp.2]

theorem listN (h : RT P s d) (n : Nat) :
    RT (fun l => l.length = n ∧ ∀ x ∈ l, P x) (List.flatMap s) (deListN d n) := by
  rintro l ⟨rfl, hl⟩ rest
  induction l with
  | nil => rfl
  | cons x xs ih =>
    obtain ⟨hx, hxs⟩ := List.forall_mem_cons.1 hl
    simp only [List.length_cons, List.flatMap_cons, List.append_assoc, deListN, h x hx, ih hxs]

theorem list (h : RT P s d) : RT (fun l => U64 l.length ∧ ∀ x ∈ l, P x) (serList s) (deList d) :=
  fun l hl rest => by
    rw [serList, deList, List.append_assoc, rtU64.step hl.1]
    exact h.listN _ l ⟨rfl, hl.2⟩ rest

end RT

def StrRep (s : Str) : Prop := s.length < 18446744073709551616 ∧ validUtf8 s = true

theorem flatMap_serU8 (s : Bytes) : s.flatMap serU8 = s := List.flatMap_singleton' s

theorem rtBytes (n : Nat) : RT (fun s : Bytes => s.length = n) (fun s => s) (deListN deU8 n) :=
  fun s h rest => by
    have := rtU8.listN n s ⟨h, fun _ _ => trivial⟩ rest
    rwa [flatMap_serU8] at this

theorem rtStr : RT StrRep serStr deStr := fun s h rest => by
  simp only [serStr, deStr, List.append_assoc, rtU64.step h.1, (rtBytes _).step rfl, h.2, if_true]

end Fend.Ser
