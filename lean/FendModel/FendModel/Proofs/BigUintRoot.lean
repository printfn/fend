/-
`BigUint::root_n` on limb vectors refines the bisection on natural numbers (`Fend.Root.rootNat`, for which C03 proves
"floor of the n-th root, flagged exact iff the radicand is a perfect n-th power"): same value, same exactness flag,
for every limb representation of radicand and index.
-/
import FendModel.Model.Root
import FendModel.Proofs.BigUintPow
import FendModel.Proofs.BigUintCmpSub
import FendModel.Proofs.BigUintShift

namespace Fend
namespace BigUint

/-- with `p = 2 ^ log2 V`: from `p ≤ V < 2 p` and `x < 2^64`, `p · 2^64 ≤ x + 2^64 · V < 2 p · 2^64` -/
theorem log2_shift (V x : Nat) (hV : V ≠ 0) (hx : x < B) : Nat.log2 (x + B * V) = Nat.log2 V + 64 := by
  have h1 := Nat.log2_self_le hV
  have h2 := @Nat.lt_log2_self V
  simp only [B] at hx ⊢
  rw [Nat.log2_eq_iff (by omega), Nat.add_right_comm, Nat.pow_add, Nat.pow_add]
  omega

theorem bitsGo_val (v : List Nat) (hw : WFL v) (i acc : Nat) :
    bits.go v i acc = if valL v = 0 then acc else Nat.log2 (valL v) + 1 + i * 64 := by
  induction v generalizing i acc with
  | nil => rfl
  | cons x xs ih =>
    obtain ⟨hx, hxs⟩ := WFL_cons.mp hw
    rw [bits.go, ih hxs, valL]
    by_cases hV : valL xs = 0
    · rw [if_pos hV, hV, Nat.mul_zero, Nat.add_zero]
      by_cases h0 : x = 0 <;> simp [h0]
    · have := Nat.mul_pos B_pos (Nat.pos_of_ne_zero hV)
      rw [if_neg hV, if_neg (by omega), log2_shift _ _ hV hx]
      ring

theorem bits_val (a : BigUint) (ha : a.WF) (h0 : val a ≠ 0) : bits a = some (Nat.log2 (val a) + 1) := by
  cases a with
  | small n => exact if_neg h0
  | large v => rw [bits, bitsGo_val v ha, if_neg (show ¬ valL v = 0 from h0), Nat.zero_mul, Nat.add_zero]; rfl

/-- a limb-level root against the bisection on natural numbers; `none` is the exhausted fuel -/
def RootSim (c : R (BigUint × Bool)) (o : Option (Nat × Bool)) : Prop :=
  match o with
  | some (g, e) => ∃ gb, c = .ok (gb, e) ∧ val gb = g ∧ gb.WF
  | none => c = .error .other

theorem RootSim.ok {g : BigUint} (hg : g.WF) (e : Bool) : RootSim (.ok (g, e)) (some (val g, e)) := ⟨g, rfl, rfl, hg⟩

theorem RootSim.elim {c : R (BigUint × Bool)} {o : Option (Nat × Bool)} (h : RootSim c o) :
    (o = none ∧ c = .error .other) ∨ ∃ g e, o = some (val g, e) ∧ c = .ok (g, e) ∧ g.WF := by
  match o, h with
  | none, h => exact .inl ⟨rfl, h⟩
  | some _, ⟨g, h, hv, hw⟩ => exact .inr ⟨g, _, by rw [hv], h, hw⟩

theorem RootSim.of_ok {c : R (BigUint × Bool)} {o : Option (Nat × Bool)} (h : RootSim c o) {g : BigUint} {e : Bool}
    (hc : c = .ok (g, e)) : o = some (val g, e) ∧ g.WF := by
  obtain ⟨-, he⟩ | ⟨g', e', ho, hok, hw⟩ := h.elim
  · cases hc.symm.trans he
  · cases hc.symm.trans hok; exact ⟨ho, hw⟩

theorem rootLoop_refines (self n : BigUint) (hs : self.WF) (hn : n.WF) (hn1 : 1 ≤ val n) (hnB : val n < B) (fuel : Nat) :
    ∀ low high : BigUint, low.WF → high.WF → val low ≤ val high →
      RootSim (rootLoop self n fuel low high) (Root.rootLoop (val self) (val n) fuel (val low) (val high)) := by
  induction fuel with
  | zero => intro _ _ _ _ _; rfl
  | succ f ih =>
    intro low high hl hh hle
    obtain ⟨hgv, hgw⟩ := rshift_val (add low high) (add_WF low high hl hh)
    rw [add_val] at hgv
    obtain ⟨res, hres, hresv, hresw⟩ := (pow_spec _ n hgw hn).2.2 (fun h => by omega) hnB
    -- both branches end in the same test of the new interval
    have step : ∀ lo hi : BigUint, lo.WF → hi.WF → val lo ≤ val hi →
        RootSim (match sub hi lo with
          | .error e => .error e
          | .ok d => if ble d (small 1) then .ok (lo, false) else rootLoop self n f lo hi)
        (if val hi - val lo ≤ 1 then some (val lo, false) else Root.rootLoop (val self) (val n) f (val lo) (val hi)) := by
      intro lo hi wl wh hlh
      obtain ⟨d, hd, hdv, hdw⟩ := sub_val hi lo wh wl hlh
      simp only [hd, ble_eq d _ hdw one_WF, hdv, val_small, decide_eq_true_eq]
      by_cases hw : val hi - val lo ≤ 1
      · rw [if_pos hw, if_pos hw]; exact .ok wl false
      · rw [if_neg hw, if_neg hw]; exact ih lo hi wl wh hlh
    -- read the midpoint of the value-level loop and its power as the values of the limb-level `guess` and `res`
    rw [Root.rootLoop, rootLoop, hres, ← hgv, ← hresv]
    dsimp only
    rw [cmp_val res self hresw hs]
    rcases Nat.lt_trichotomy (val res) (val self) with hlt | heq | hgt
    · rw [Nat.compare_eq_lt.mpr hlt, if_neg (Nat.ne_of_lt hlt), if_neg (Nat.lt_asymm hlt), if_neg (Nat.lt_asymm hlt)]
      exact step _ high hgw hh (by omega)
    · rw [Nat.compare_eq_eq.mpr heq, if_pos heq]
      exact .ok hgw true
    · rw [Nat.compare_eq_gt.mpr hgt, if_neg (Nat.ne_of_gt hgt), if_pos hgt, if_pos hgt]
      exact step low _ hl hgw (by omega)

theorem rootN_refines (self n : BigUint) (hs : self.WF) (hn : n.WF) (hn1 : 1 ≤ val n) (hnB : val n < B) :
    RootSim (rootN self n) (Root.rootNat (val self) (val n)) := by
  have hfit : n.fitsU64 = true := (fitsU64_iff_lt n hn).mpr hnB
  unfold Root.rootNat rootN
  simp only [Bool.or_eq_true, beq_iff self _ hs zero_WF, beq_iff self _ hs one_WF, beq_iff n _ hn one_WF, val_small,
    or_assoc, hfit, get0_of_fits n hfit]
  by_cases hc : val self = 0 ∨ val self = 1 ∨ val n = 1
  · rw [if_pos hc, if_pos hc]; exact .ok hs true
  · rw [if_neg hc, if_neg hc]
    obtain ⟨high, hhigh, hhv, hhw⟩ := lshiftN_val (small 1) (small ((Nat.log2 (val self) + 1) / val n + 1 + 1)) one_WF
      (by simp [limbs]) rfl
    rw [val_small, val_small, Nat.one_mul] at hhv
    have := rootLoop_refines self n hs hn hn1 hnB ((Nat.log2 (val self) + 1) / val n + 1 + 4) (small 1) high one_WF hhw
      (by rw [val_small, hhv]; exact Nat.one_le_two_pow)
    rw [val_small, hhv] at this
    -- the guards of `rootN` in front of the loop: `n` fits a limb, `bits self` is `some _`, `n.get 0 ≠ 0`, `lshiftN` returned `high`
    simpa only [bits_val self hs (fun h => hc (.inl h)), Bool.not_true, Bool.false_eq_true, if_false,
      if_neg (show ¬ val n = 0 by omega), hhigh] using this

end BigUint
end Fend
