/-
The calendar of `Model/Date.lean` against the ordinal-day specification. The ordinal of a date is a year part
(`yearStart`), a month part (`daysBefore`) and the day; `next` and the weekday formula each move one part, so each
rests on one successor fact per part (`yearStart_succ`, `daysBefore_succ`) or one congruence per part
(`jan1_weekday`, `monthOffsets_eq`), and the twelve months are enumerated only inside those.  At the end: walking back by
years and months (through the month index `12 * year + month - 1`) and the bound on the numbers of a date literal.
-/
import FendModel.Model.Date
import Mathlib.Tactic.IntervalCases

namespace Fend.Date

theorem isLeap_iff (y : Int) (hy : 0 ≤ y) : isLeap y = true ↔ specLeap y := by
  unfold isLeap specLeap
  rw [Int.tmod_eq_emod_of_nonneg hy, Int.tmod_eq_emod_of_nonneg hy, Int.tmod_eq_emod_of_nonneg hy]
  by_cases h1 : y % 400 = 0
  · simp [h1]
  · by_cases h2 : y % 100 = 0
    · simp [h1, h2]
    · simp [h1, h2]

theorem monthLen_eq (m : Nat) (y : Int) (hy : 0 ≤ y) (h1 : 1 ≤ m) (h2 : m ≤ 12) :
    monthLen m y = specMonthLen m y := by
  interval_cases m
  case «2» =>
    show (if isLeap y = true then 29 else 28) = if specLeap y then 29 else 28
    simp only [isLeap_iff y hy]
  all_goals rfl

theorem specMonthLen_pos (m : Nat) (y : Int) (h1 : 1 ≤ m) (h2 : m ≤ 12) : 1 ≤ specMonthLen m y := by
  interval_cases m
  case «2» => show 1 ≤ if specLeap y then 29 else 28; split <;> decide
  all_goals exact Nat.succ_pos _

theorem yearNext_eq (y : Int) (h1 : 1 ≤ y) (h2 : y < i32Max) : yearNext y = some (y + 1) := by
  unfold yearNext
  rw [if_neg (by omega), if_neg (by omega)]

theorem yearPrev_eq (y : Int) (h : 2 ≤ y) : yearPrev y = some (y - 1) := by
  unfold yearPrev i32Min
  rw [if_neg (by omega), if_neg (by omega)]

/-- the year's part of `ordinal`. The divisions by 4, 100 and 400 are reasoned about in `yearStart_succ` and
`jan1_weekday` only; everywhere else `omega` takes `yearStart y` as an atom, which is what keeps it fast. -/
def yearStart (y : Int) : Int := 365 * (y - 1) + (y - 1) / 4 - (y - 1) / 100 + (y - 1) / 400

theorem ordinal_eq (d : Date) :
    ordinal d = yearStart d.year + daysBefore d.month d.year + d.day := rfl

theorem yearStart_succ (y : Int) : yearStart (y + 1) = yearStart y + daysBefore 12 y + 31 := by
  show _ = _ + (334 + if specLeap y then 1 else 0) + 31
  unfold yearStart specLeap
  omega

theorem daysBefore_succ (m : Nat) (y : Int) (h1 : 1 ≤ m) (h2 : m < 12) :
    daysBefore (m + 1) y = daysBefore m y + specMonthLen m y := by
  unfold daysBefore specMonthLen
  split <;> interval_cases m <;> rfl

theorem next_real (d : Date) (h : Real d) (hmax : d.year < i32Max) :
    next d = some (if d.day < specMonthLen d.month d.year then { d with day := d.day + 1 }
      else if d.month = 12 then ⟨d.year + 1, 1, 1⟩ else { d with day := 1, month := d.month + 1 }) := by
  unfold next monthNext
  rw [monthLen_eq _ _ (by have := h.1; omega) h.2.1 h.2.2.1, yearNext_eq _ h.1 hmax]
  split
  · rfl
  · split <;> rfl

/-- the last clause is what keeps a walk of several days below the year limit -/
theorem next_spec (d : Date) (h : Real d) (hmax : d.year < i32Max) :
    ∃ d', next d = some d' ∧ ordinal d' = ordinal d + 1 ∧ Real d' ∧ prev d' = some d ∧
      d'.year ≤ d.year + 1 := by
  refine ⟨_, next_real d h hmax, ?_⟩
  obtain ⟨y, m, dd⟩ := d
  obtain ⟨hy, hm1, hm2, hd1, hd2⟩ := h
  simp only at *
  split
  · -- inside the month: only the day part of `ordinal` moves, and `prev` takes the day back
    simp only [ordinal_eq, Real, prev]
    exact ⟨by push_cast; omega, by omega, if_pos (by omega), by omega⟩
  · have hdd : dd = specMonthLen m y := by omega
    split
    · -- 31 December: the year part moves (`yearStart_succ`), and `prev` goes back over the year
      rename_i h12
      subst h12 hdd
      have e : specMonthLen 12 y = 31 := rfl
      simp only [ordinal_eq, Real, yearStart_succ, prev, if_true, yearPrev_eq (y + 1) (by omega),
        Option.map_some, Int.add_sub_cancel]
      refine ⟨?_, ⟨by omega, Nat.le_refl 1, by decide, Nat.le_refl 1, Nat.succ_pos 30⟩, rfl, Int.le_refl _⟩
      show _ + 0 + _ = _      -- `daysBefore 1 (y + 1)` is 0
      omega
    · -- last day of `m`: the month part moves (`daysBefore_succ`), and `prev` returns to `m` at its length, `dd`
      simp only [ordinal_eq, Real, daysBefore_succ m y hm1 (by omega), prev, monthPrev, Nat.add_sub_cancel]
      have := specMonthLen_pos (m + 1) y (by omega) (by omega)
      refine ⟨by push_cast; omega, by omega, ?_, by omega⟩
      rw [if_neg (by decide), if_neg (by omega), if_neg (by omega), hdd, monthLen_eq m y (by omega) hm1 hm2]

/-- `prev` undoes `next` on real dates -/
theorem prev_next (d : Date) (h : Real d) (hmax : d.year < i32Max) :
    ∃ d', next d = some d' ∧ prev d' = some d :=
  let ⟨d', hn, _, _, hp, _⟩ := next_spec d h hmax
  ⟨d', hn, hp⟩

theorem subDays_snoc (n : Nat) (x : Date) : subDays (n + 1) x = (subDays n x).bind prev := by
  fun_induction subDays n x with
  | case1 d =>
    rw [subDays, Option.bind_some]
    cases prev d <;> rfl
  | case2 n d h => rw [subDays, h, Option.bind_none]
  | case3 n d d' h ih =>
    rw [subDays, h]
    exact ih

/-- the code's formula for the weekday of 1 January. With `Y = y - 1` and `Y / k = (Y - Y % k) / k`, and 2, 4, 1
the inverses of 4, 100, 400 modulo 7, the multiples of `Y` in `365 Y + Y/4 - Y/100 + Y/400` cancel
(`1 + 2 - 4 + 1 ≡ 0`) and the remainders are left with the factors `-2 ≡ 5`, `4`, `-1 ≡ 6`. Holds for every integer. -/
theorem jan1_weekday (y : Int) :
    (1 + 5 * ((y - 1) % 4) + 4 * ((y - 1) % 100) + 6 * ((y - 1) % 400)) % 7 = (yearStart y + 1) % 7 := by
  unfold yearStart; omega

theorem monthOffsets_eq (m : Nat) (y : Int) (h1 : 1 ≤ m) (h2 : m ≤ 12) :
    (if specLeap y then (monthOffsets m).2 else (monthOffsets m).1) = daysBefore m y % 7 := by
  unfold daysBefore monthOffsets
  split <;> interval_cases m <;> rfl

theorem dayOfWeek_spec (d : Date) (h : Real d) :
    dayOfWeek d = some ((ordinal d) % 7).toNat := by
  obtain ⟨hy, hm1, hm2, hd1, hd2⟩ := h
  have hy1 : 0 ≤ d.year - 1 := by omega
  unfold dayOfWeek
  simp only [isLeap_iff d.year (by omega), monthOffsets_eq d.month d.year hm1 hm2,
    Int.tmod_eq_emod_of_nonneg hy1]
  rw [Int.tmod_eq_emod_of_nonneg (a := 1 + _ + _ + _), jan1_weekday, Int.tmod_eq_emod_of_nonneg,
    if_pos ⟨Int.emod_nonneg _ (by decide), Int.le_of_lt_add_one (Int.emod_lt_of_pos _ (by decide))⟩, ordinal_eq]
  · congr 2
    omega
  · omega
  · omega

/-- consecutive days have consecutive weekdays (across month, year, century and leap-day
boundaries alike) -/
theorem weekday_succ (d : Date) (h : Real d) (hmax : d.year < i32Max) :
    ∃ d' w, next d = some d' ∧ dayOfWeek d = some w ∧ dayOfWeek d' = some ((w + 1) % 7) := by
  obtain ⟨d', hn, ho, hr, -⟩ := next_spec d h hmax
  refine ⟨d', _, hn, dayOfWeek_spec d h, ?_⟩
  rw [dayOfWeek_spec d' hr, ho, ← Int.emod_add_emod]
  -- with `ordinal d % 7` a natural number `w`, both sides compute to `(w + 1) % 7`
  obtain ⟨w, hw⟩ := Int.eq_ofNat_of_zero_le (Int.emod_nonneg (ordinal d) (by decide : (7 : Int) ≠ 0))
  rw [hw]
  rfl

theorem yearsBack_spec (k : Nat) (y : Int) (h : 1 ≤ y - k) : yearsBack k y = some (y - k) := by
  induction k generalizing y with
  | zero => simp [yearsBack]
  | succ k ih =>
    rw [yearsBack, yearPrev_eq y (by omega), Option.bind_some, ih (y - 1) (by omega)]
    push_cast; congr 1; omega

/-- months are counted by the index `12 * year + month - 1`; `t` is the index of the month aimed at -/
theorem monthsBack_spec (k : Nat) (y : Int) (m : Nat) (hm1 : 1 ≤ m) (hm2 : m ≤ 12) (t : Int)
    (ht : t = 12 * y + m - 1 - k) (h : 12 ≤ t) :
    ∃ y' m', monthsBack k (y, m) = some (y', m') ∧ 1 ≤ m' ∧ m' ≤ 12 ∧ 12 * y' + (m' : Int) - 1 = t := by
  induction k generalizing y m with
  | zero => exact ⟨y, m, rfl, hm1, hm2, by omega⟩
  | succ k ih =>
    unfold monthsBack
    split
    · subst m
      rw [yearPrev_eq y (by omega), Option.bind_some]
      exact ih (y - 1) 12 (by omega) (by omega) (by omega)
    · rw [monthPrev, if_neg ‹_›]
      exact ih y (m - 1) (by omega) (by omega) (by omega)

theorem parseNum_go_bound (num : Nat) (cs : List Nat) (r : Nat × List Nat)
    (h : parseNum.go num cs = some r) (hn : num ≤ 2147483647) : r.1 ≤ 2147483647 := by
  fun_induction parseNum.go num cs with
  | case1 num =>
    cases h
    exact hn
  | case2 num c rest hd =>
    cases h
    exact hn
  | case3 num c rest d hd hgt => cases h
  | case4 num c rest d hd hle ih => exact ih h (by omega)

theorem parseNum_le (cs : List Nat) (lz : Bool) (r : Nat × List Nat) (h : parseNum cs lz = some r) :
    r.1 ≤ 2147483647 := by
  revert h
  fun_cases parseNum cs lz
  case case4 c rest d0 hd0 _ =>
    -- the loop starts from the first digit, which is at most 9
    obtain ⟨hc, hd0⟩ := Option.ite_none_right_eq_some.mp hd0
    cases hd0
    exact fun h => parseNum_go_bound _ _ _ h (by omega)
  all_goals exact nofun

end Fend.Date
