/-
`Ord for BigUint` compares limbs from the top down; on well-formed operands of any two shapes that is the order
of the values. `sub` compares first and then runs the borrow loop over the zero-padded limbs of the minuend; with
`val b ≤ val a` neither its underflow panic nor the final `assert!` on the borrow is reached.
-/
import FendModel.Proofs.BigUintLimbs

namespace Fend.BigUint

theorem compare_limb (x y X Y : Nat) (hx : x < B) (hy : y < B) :
    compare (x + B * X) (y + B * Y) = (compare X Y).then (compare x y) := by
  simp only [B] at *
  rcases Nat.lt_trichotomy X Y with h | rfl | h
  · rw [Nat.compare_eq_lt.mpr h]; exact Nat.compare_eq_lt.mpr (by omega)
  · rw [Nat.compare_eq_eq.mpr rfl]
    rcases Nat.lt_trichotomy x y with g | rfl | g
    · rw [Nat.compare_eq_lt.mpr g]; exact Nat.compare_eq_lt.mpr (by omega)
    · rw [Nat.compare_eq_eq.mpr rfl, Nat.compare_eq_eq.mpr rfl]; rfl
    · rw [Nat.compare_eq_gt.mpr g]; exact Nat.compare_eq_gt.mpr (by omega)
  · rw [Nat.compare_eq_gt.mpr h]; exact Nat.compare_eq_gt.mpr (by omega)

theorem cmpLoop_succ (a b : BigUint) (i : Nat) :
    cmpLoop a b (i + 1) = (compare (a.get i) (b.get i)).then (cmpLoop a b i) := by
  rw [cmpLoop]; cases compare (a.get i) (b.get i) <;> rfl

theorem cmpLoop_spec (a b : BigUint) (ha : a.WF) (hb : b.WF) (i : Nat) :
    compare (val a) (val b) = (compare (valFrom a i) (valFrom b i)).then (cmpLoop a b i) := by
  induction i with
  | zero => rw [valFrom_zero, valFrom_zero]; cases compare (val a) (val b) <;> rfl
  | succ i ih =>
    rw [ih, valFrom_succ a i, valFrom_succ b i, compare_limb _ _ _ _ (get_lt a ha i) (get_lt b hb i),
      Ordering.then_assoc, cmpLoop_succ]

/-- comparison agrees with the order on values, for well-formed limb vectors of any shape -/
theorem cmp_val (a b : BigUint) (ha : a.WF) (hb : b.WF) : a.cmp b = compare (val a) (val b) := by
  unfold cmp
  split
  · rfl
  · rw [cmpLoop_spec a b ha hb (max a.valueLen b.valueLen), valFrom_of_le a _ (Nat.le_max_left _ _),
      valFrom_of_le b _ (Nat.le_max_right _ _)]
    rfl

/-- stated with `decide`, so that one equation serves the `true` and the `false` branch of a test -/
theorem ble_eq (a b : BigUint) (ha : a.WF) (hb : b.WF) : ble a b = decide (val a ≤ val b) := by
  rw [ble, cmp_val a b ha hb, Bool.eq_iff_iff, bne_iff_ne, Nat.compare_ne_gt, decide_eq_true_eq]

theorem blt_eq (a b : BigUint) (ha : a.WF) (hb : b.WF) : blt a b = decide (val a < val b) := by
  rw [blt, cmp_val a b ha hb, Bool.eq_iff_iff, beq_iff_eq, Nat.compare_eq_lt, decide_eq_true_eq]

theorem beq_eq (a b : BigUint) (ha : a.WF) (hb : b.WF) : beq a b = decide (val a = val b) := by
  rw [beq, cmp_val a b ha hb, Bool.eq_iff_iff, beq_iff_eq, Nat.compare_eq_eq, decide_eq_true_eq]

theorem ble_iff (a b : BigUint) (ha : a.WF) (hb : b.WF) : ble a b = true ↔ val a ≤ val b := by
  rw [ble_eq a b ha hb, decide_eq_true_eq]

theorem blt_iff (a b : BigUint) (ha : a.WF) (hb : b.WF) : blt a b = true ↔ val a < val b := by
  rw [blt_eq a b ha hb, decide_eq_true_eq]

theorem beq_iff (a b : BigUint) (ha : a.WF) (hb : b.WF) : beq a b = true ↔ val a = val b := by
  rw [beq_eq a b ha hb, decide_eq_true_eq]

/-- both branches of the borrow loop satisfy one digit equation, so `subLoop_spec` does not split on them -/
theorem subLoop_cons (other : BigUint) (a : Nat) (rest : List Nat) (i carry : Nat) :
    ∃ o c', subLoop other (a :: rest) i carry
        = (o :: (subLoop other rest (i + 1) c').1, (subLoop other rest (i + 1) c').2)
      ∧ (a < B → other.get i < B → carry ≤ 1 → o + other.get i + carry = a + B * c' ∧ o < B ∧ c' ≤ 1) := by
  rw [subLoop]
  split
  · rename_i h
    simp only [Bool.and_eq_true, Bool.not_eq_true', decide_eq_true_eq] at h
    exact ⟨_, 0, rfl, fun _ _ _ => by omega⟩
  · rename_i h
    simp only [Bool.and_eq_true, Bool.not_eq_true', decide_eq_true_eq, Bool.and_eq_false_imp,
      beq_iff_eq, beq_eq_false_iff_ne, ne_eq, not_and, Nat.not_le] at h
    exact ⟨_, 1, rfl, fun _ _ _ => by simp only [B] at *; omega⟩

theorem subLoop_spec (other : BigUint) (ho : other.WF) (res : List Nat) (hr : WFL res)
    (i carry : Nat) (hc : carry ≤ 1) :
    valL (subLoop other res i carry).1 + valFrom other i + carry
      = valL res + B ^ res.length * ((subLoop other res i carry).2 + valFrom other (i + res.length))
    ∧ (subLoop other res i carry).1.length = res.length
    ∧ WFL (subLoop other res i carry).1 := by
  induction res generalizing i carry with
  | nil => simp [subLoop, valL, WFL, Nat.add_comm]
  | cons a rest ih =>
    obtain ⟨ha, hrest⟩ := WFL_cons.mp hr
    obtain ⟨o, c', heq, hd⟩ := subLoop_cons other a rest i carry
    obtain ⟨hd, ho', hc'⟩ := hd ha (get_lt other ho i) hc
    obtain ⟨h1, h2, h3⟩ := ih hrest (i + 1) c' hc'
    rw [heq]
    refine ⟨?_, congrArg (· + 1) h2, WFL_cons.mpr ⟨ho', h3⟩⟩
    -- this digit's equation `hd` plus `B` times the tail's `h1`: linear once `B ^ rest.length * _` is an atom
    rw [valFrom_succ other i, valL, valL, List.length_cons, pow_succ', Nat.mul_assoc,
      ← Nat.add_assoc i, Nat.add_right_comm i]
    generalize B ^ rest.length * _ = P at h1 ⊢
    simp only [B] at hd ⊢
    omega

/-- a borrow `c` out of the top limb would mean `a < b` -/
theorem no_borrow (V a b P c : Nat) (h : V + b = a + P * c) (hV : V < P) (hle : b ≤ a) : c = 0 ∧ V = a - b := by
  rcases Nat.eq_zero_or_pos c with rfl | hc
  · omega
  · have := Nat.le_mul_of_pos_right P hc
    omega

theorem sub_spec (a b : BigUint) (ha : a.WF) (hb : b.WF) (h : val b ≤ val a) :
    ∃ r, a.sub b = .ok r ∧ val r = val a - val b ∧ r.WF ∧ (a.limbs ≠ [] → r.limbs ≠ []) := by
  unfold sub
  split
  · rename_i x y
    rw [if_neg (Nat.not_lt.mpr (show y ≤ x from h))]
    exact ⟨_, rfl, rfl, Nat.lt_of_le_of_lt (Nat.sub_le _ _) ha, fun _ => List.cons_ne_nil _ _⟩
  · rw [cmp_val a b ha hb]
    rcases Nat.eq_or_lt_of_le h with heq | hlt
    · rw [Nat.compare_eq_eq.mpr heq.symm]
      exact ⟨_, rfl, by rw [heq, Nat.sub_self]; rfl, B_pos, fun _ => List.cons_ne_nil _ _⟩
    · rw [Nat.compare_eq_gt.mpr hlt]
      dsimp only
      split
      · exact ⟨a, rfl, by rw [(isZero_iff b).mp ‹_›]; rfl, ha, id⟩
      · rw [pad_zeros]
        obtain ⟨h1, h2, h3⟩ := subLoop_spec b hb _
          (WFL_append_zeros _ (b.valueLen - a.limbs.length) ((WF_iff_limbs a).mp ha)) 0 0 (Nat.zero_le 1)
        rw [valFrom_zero, Nat.zero_add, valFrom_of_le b _ (le_length_pad _ _), valL_append_zeros,
          ← val_eq_limbs, Nat.add_zero, Nat.add_zero] at h1
        obtain ⟨hc, hv⟩ := no_borrow _ _ _ _ _ h1 (h2 ▸ valL_lt _ h3) h
        rw [hc]
        refine ⟨_, rfl, hv, h3, fun hne => ?_⟩
        rw [limbs, ← List.length_pos_iff, h2, List.length_append]
        exact Nat.lt_of_lt_of_le (List.length_pos_iff.mpr hne) (Nat.le_add_right _ _)

/-- subtraction never panics when `b ≤ a`, and is exact -/
theorem sub_val (a b : BigUint) (ha : a.WF) (hb : b.WF) (h : val b ≤ val a) :
    ∃ r, a.sub b = .ok r ∧ val r = val a - val b ∧ r.WF :=
  let ⟨r, hr, hv, hw, _⟩ := sub_spec a b ha hb h
  ⟨r, hr, hv, hw⟩

end Fend.BigUint
