/-
What `BigRat::root_n` does with an integer root that did not come out exact: the 50 bisection steps of `iter_root_n` follow
`Root.iterLoop` on the denoted rationals step for step, for any power function `powf` that raises to the `N`-th power, and
`BigRat::pow` is one.  (That `root_n` as a whole refines `Fend.Root.ratRoot` is `C03.bigrat_root_refines`.)
-/
import FendModel.Model.Root
import FendModel.Proofs.BigRatPow

namespace Fend
namespace BigRat
open BigUint

theorem mid_rep {lo hi : BigRat} {l h : Rat} (hlo : Rep lo l) (hhi : Rep hi h) :
    ∃ s g, add lo hi = .ok s ∧ div s (ofNat64 2) = .ok g ∧ Rep g ((l + h) / 2) := by
  obtain ⟨s, hs, hsr⟩ := hlo.add hhi
  obtain ⟨g, hg, hgr⟩ := hsr.div_of_ne (rep_ofNat64 (n := 2) (by decide)) (by norm_num)
  exact ⟨s, g, hs, hg, hgr.cast (by norm_num)⟩

theorem iterGo_refines (powf : BigRat → BigRat → R (BigRat × Bool)) {v n : BigRat} {V : Rat} {N : Nat} (hv : Rep v V)
    (hpow : ∀ g p, Rep g p → ∃ r ex, powf g n = .ok (r, ex) ∧ Rep r (p ^ N)) (k : Nat) {lo hi : BigRat} {l h : Rat}
    (hlo : Rep lo l) (hhi : Rep hi h) :
    ∃ lo' hi', iterRootN.go powf v n k lo hi = .ok (lo', hi') ∧
      Rep lo' (Root.iterLoop V N k l h).1 ∧ Rep hi' (Root.iterLoop V N k l h).2 := by
  induction k generalizing lo hi l h with
  | zero => exact ⟨lo, hi, rfl, hlo, hhi⟩
  | succ k ih =>
    obtain ⟨s, g, hs, hg, hgr⟩ := mid_rep hlo hhi
    obtain ⟨p, ex, hp, hpr⟩ := hpow g _ hgr
    have hcd : (cmpD p v == .lt) = decide (((l + h) / 2) ^ N < V) := by
      rw [hpr.cmpD hv, Bool.eq_iff_iff, beq_iff_eq, compare_lt_iff_lt, decide_eq_true_eq]
    simp only [iterRootN.go, hs, hg, hp, ok_bind, hcd, decide_eq_true_eq, Root.iterLoop]
    by_cases hlt : ((l + h) / 2) ^ N < V
    · rw [if_pos hlt, if_pos hlt]; exact ih hgr hhi
    · rw [if_neg hlt, if_neg hlt]; exact ih hlo hgr

theorem iterRootN_refines (powf : BigRat → BigRat → R (BigRat × Bool)) {low v n : BigRat} {l V : Rat} {N : Nat}
    (hl : Rep low l) (hv : Rep v V) (hpow : ∀ g p, Rep g p → ∃ r ex, powf g n = .ok (r, ex) ∧ Rep r (p ^ N)) :
    ∃ q, iterRootN powf low v n = .ok q ∧
      Rep q (((Root.iterLoop V N 50 l (l + 1)).1 + (Root.iterLoop V N 50 l (l + 1)).2) / 2) := by
  obtain ⟨high, hh, hhr⟩ := hl.add (rep_ofNat64 (n := 1) (by decide))
  obtain ⟨lo', hi', hgo, r1, r2⟩ := iterGo_refines powf hv hpow 50 hl (hhr.cast (by rw [Nat.cast_one]))
  obtain ⟨s, g, hs, hg, hgr⟩ := mid_rep r1 r2
  exact ⟨g, by simp only [iterRootN, hh, ok_bind, hgo, hs, hg], hgr⟩

theorem pow_index_rep (f : Nat) {nn : BigUint} (hnn : nn.WF) (hn1 : 1 ≤ val nn) (hnB : val nn < B) (g : BigRat) (p : Rat)
    (hg : Rep g p) : ∃ r ex, pow (f + 1) g (ofUint nn) = .ok (r, ex) ∧ Rep r (p ^ val nn) := by
  have h := pow_nonneg_int f hg (e := ofUint nn) ⟨hnn, one_WF⟩ ⟨Nat.one_ne_zero, Nat.one_dvd _⟩ rfl
  rw [show expN (ofUint nn) = val nn from Nat.div_one _, if_neg (by omega), if_neg (by omega)] at h
  exact let ⟨r, hr, hrep⟩ := h; ⟨r, true, hr, hrep⟩

/-- what `BigRat::root_n` does with numerator and denominator alike: the integer root if it came out exact, else its
refinement by `iter_root_n` -/
theorem rootPart_refines (f : Nat) {g v nn : BigUint} (e : Bool) (hg : g.WF) (hv : v.WF) (hnn : nn.WF) (hn1 : 1 ≤ val nn)
    (hnB : val nn < B) :
    ∃ q, (if e then .ok (ofUint g) else iterRootN (pow (f + 1)) (ofUint g) (ofUint v) (ofUint nn)) = .ok q ∧
      Rep q (if e then ((val g : Nat) : Rat) else Root.iterRoot (val g) (val v) (val nn)) := by
  cases e with
  | true => exact ⟨_, rfl, rep_ofUint hg⟩
  | false => exact iterRootN_refines (pow (f + 1)) (rep_ofUint hg) (rep_ofUint hv) (pow_index_rep f hnn hn1 hnB)

end BigRat
end Fend
