/-
`let` for an arbitrary body: `x = e; b` against `b[x := (e)]` for closed arithmetic `e`, provided `b` neither re-binds nor
re-assigns `x` and the functions already stored in variables do not mention `x` (globals are late-bound: a stored
`f = y: y + x` would see the new `x` on one side only).  The left side looks `x` up (one step), the right side re-evaluates
`(e)` (up to `depth e + 1` steps): the right side runs with that much more fuel and nothing is claimed once the left has run
out.  Two modes: code that comes from `b` has `(e)` written for `x` on the right (`HygL`); code that comes from closures
stored beforehand does not mention `x` and is the same on both sides (`NoX`).
-/
import FendModel.Proofs.ScopeLet

namespace Fend.Scope.LetF
open Fend.Scope

section
variable (x : String) (e : Expr) (q : Rat)

def HygL : Expr → Bool
  | .num _ => true
  | .unitLit => true
  | .var _ => true
  | .parens t => HygL t
  | .neg t => HygL t
  | .bop _ a b => HygL a && HygL b
  | .lam y b => y != x && HygL b
  | .app f a => HygL f && HygL a
  | .assign y t => y != x && HygL t
  | .seq a b => HygL a && HygL b

def NoX (t : Expr) : Bool := !(namesOf t).contains x

/-- what the right side has where the left has `t`: `(e)` written for `x` in code that comes from `b` (`m = true`), `t` itself
in code stored beforehand -/
def sub (m : Bool) (t : Expr) : Expr := if m then subst x e t else t

/-- what the simulation needs of an expression in each mode: no binder or assignment of `x` where it substitutes, no `x` at
all where it does not -/
def Pre (m : Bool) (t : Expr) : Prop := if m then HygL x t = true else NoX x t = true

/-- the scopes of the two runs: the same parameters, none named `x`; each binding in a mode of its own -/
inductive SRelL : Scope → Scope → Prop
  | nil : SRelL .nil .nil
  | cons (m : Bool) (p : String) (a : Expr) (C C' S T : Scope) :
      p ≠ x → Pre x m a → SRelL C C' → SRelL S T → SRelL (.cons p a C S) (.cons p (sub x e m a) C' T)

/-- the values of the two runs: equal numbers and units; closures, not over `x`, whose bodies and captured scopes are related -/
def VR : Value → Value → Prop
  | .num r, w => w = .num r
  | .unit, w => w = .unit
  | .fn p body C, w => ∃ m C', w = .fn p (sub x e m body) C' ∧ Pre x m body ∧ p ≠ x ∧ SRelL x e C C'

/-- the variable tables of the two runs: the left one holds `x ↦ q`; any other name is unset in both or holds `VR`-related
values -/
def VsRx (vs vs' : Vars) : Prop :=
  lookup vs x = some (.num q) ∧
  ∀ y, y ≠ x → (lookup vs y = none ∧ lookup vs' y = none) ∨ (∃ v v', lookup vs y = some v ∧ lookup vs' y = some v' ∧ VR x e v v')

/-- the results of the two runs: nothing is claimed once the left has run out of fuel; otherwise the same error or
`VR`-related values, and `VsRx`-related variables -/
def ResR (a b : Except Err Value × Vars) : Prop :=
  a.1 = .error .fuel ∨
  (VsRx x e q a.2 b.2 ∧
    match a.1, b.1 with
    | .error er, .error er' => er = er'
    | .ok v, .ok v' => VR x e v v'
    | _, _ => False)

variable {x e q}

theorem noX_iff {t : Expr} : NoX x t = true ↔ x ∉ namesOf t := by simp [NoX]

theorem Pre.arg {m : Bool} {t u : Expr} (h : Pre x m u) (a : Arg t u) : Pre x m t := by
  cases m with
  | true =>
    cases a with
    | parens | neg => exact h
    | bop₁ | app₁ | seq₁ => exact (Bool.and_eq_true_iff.1 h).1
    | bop₂ | app₂ | seq₂ | assign => exact (Bool.and_eq_true_iff.1 h).2
  | false => exact noX_iff.2 fun hx => noX_iff.1 h (a.namesOf hx)

theorem Pre.lam {m : Bool} {y : String} {b : Expr} (h : Pre x m (.lam y b)) : Pre x m b ∧ y ≠ x := by
  cases m with
  | true => exact (Bool.and_eq_true_iff.1 h).symm.imp_right bne_iff_ne.1
  | false => exact ⟨noX_iff.2 fun hx => noX_iff.1 h (.tail _ hx), fun hy => noX_iff.1 h (hy ▸ .head _)⟩

theorem Pre.assign {m : Bool} {y : String} {t : Expr} (h : Pre x m (.assign y t)) : y ≠ x := by
  cases m with
  | true => exact bne_iff_ne.1 (Bool.and_eq_true_iff.1 h).1
  | false => exact fun hy => noX_iff.1 h (hy ▸ .head _)

theorem sub_mapArgs {m : Bool} (t : Expr) (h : m = true → ¬t.IsNamed x) : sub x e m t = t.mapArgs (sub x e m) :=
  ite_subst e t h

theorem flat_VR : Flat (VR x e) :=
  ⟨.rfl, .rfl, fun ⟨_, _, h, _⟩ => ⟨_, _, _, h⟩⟩

theorem SRelL.find_x {S T : Scope} (h : SRelL x e S T) : S.find x = none := by
  induction h with
  | nil => rfl
  | cons m p a C C' S T hpx _ _ _ _ ihS => rw [Scope.find_cons_ne hpx]; exact ihS

theorem SRelL.find {S T : Scope} (h : SRelL x e S T) (y : String) :
    FindR (fun a C a' C' => ∃ m, a' = sub x e m a ∧ Pre x m a ∧ SRelL x e C C') S T y := by
  induction h with
  | nil => exact .inl ⟨rfl, rfl⟩
  | cons m p a C C' S T _ hp hC _ _ ihS => exact ihS.cons p ⟨m, rfl, hp, hC⟩

theorem VsRx.setVar {vs vs' : Vars} (h : VsRx x e q vs vs') {y : String} (hy : y ≠ x) {v v' : Value} (hv : VR x e v v') :
    VsRx x e q (setVar vs y v) (setVar vs' y v') := by
  refine ⟨(lookup_setVar_other vs y x v (Ne.symm hy)).trans h.1, fun z hz => ?_⟩
  by_cases hzy : z = y
  · subst hzy
    exact .inr ⟨v, v', lookup_setVar_same vs z v, lookup_setVar_same vs' z v', hv⟩
  · rw [lookup_setVar_other vs y z v hzy, lookup_setVar_other vs' y z v' hzy]; exact h.2 z hz

theorem sim (bi : List (String × Rat)) (he : closedArith e = true) (hq : ceval e = .ok q) (D : Nat) (hD : depth e < D) :
    ∀ (f : Nat) (t : Expr) (m : Bool) (S T : Scope) (vs vs' : Vars),
      SRelL x e S T → Pre x m t → VsRx x e q vs vs' →
      Rel (· = .fuel) (VR x e) (VsRx x e q) (eval bi f t S vs) (eval bi (f + D) (sub x e m t) T vs') := by
  intro f
  induction f with
  | zero => intro t m S T vs vs' _ _ _; exact .esc rfl
  | succ f ih =>
    intro t m S T vs vs' hrel hpre hvs
    rw [Nat.add_right_comm]
    cases t with
    | var y =>
      by_cases hyx : y = x
      · subst hyx
        cases m with
        | false => exact (noX_iff.1 hpre (.head _)).elim
        | true =>
          rw [sub, if_pos rfl, subst_var_self, eval_parens, eval_closed bi (f + D) e he (by omega) T vs', hq,
            eval_var_global _ _ _ _ hrel.find_x, global, hvs.1]
          exact .ok rfl hvs
      · rw [sub_mapArgs (.var y) fun _ => hyx]
        refine .var flat_VR (hrel.find y) (hvs.2 y hyx) hvs ?_
        rintro a C _ C' ⟨m', rfl, hp', hC⟩
        exact ih a m' C C' vs vs' hC hp' hvs
    | lam y b =>
      obtain ⟨hb, hy⟩ := hpre.lam
      rw [sub_mapArgs (.lam y b) fun _ => hy]
      exact .ok ⟨m, T, rfl, hb, hy, hrel⟩ hvs
    | app g a =>
      rw [sub_mapArgs _ fun _ => id]
      refine .app flat_VR (ih g m S T vs vs' hrel (hpre.arg .app₁) hvs) (fun hw => ih a m S T _ _ hrel (hpre.arg .app₂) hw) ?_
      rintro p b C p' b' C' w w' ⟨m', C'', h, hbp, hpx, hC⟩ hw
      cases h
      exact ih b m' _ _ w w' (.cons m p a S T C C' hpx (hpre.arg .app₂) hrel hC) hbp hw
    | assign y t =>
      rw [sub_mapArgs _ fun _ => id]
      exact .assign (ih t m S T vs vs' hrel (hpre.arg .assign) hvs) fun hv hw => hw.setVar hpre.assign hv
    | _ => exact .connective flat_VR rfl (sub_mapArgs _ fun _ => id) (fun ha _ _ hw => ih _ m S T _ _ hrel (hpre.arg ha) hw) hvs

theorem ResR.of_rel {a b : Except Err Value × Vars} (h : Rel (· = .fuel) (VR x e) (VsRx x e q) a b) : ResR x e q a b := by
  cases h with
  | esc h => exact .inl (h ▸ rfl)
  | err hw => exact .inr ⟨hw, rfl⟩
  | ok hv hw => exact .inr ⟨hw, hv⟩

theorem let_rel (bi : List (String × Rat)) (b : Expr) (he : closedArith e = true) (hq : ceval e = .ok q) (hb : HygL x b = true)
    (vs : Vars) (hgood : ∀ y, y ≠ x → lookup vs y = none ∨ ∃ v, lookup vs y = some v ∧ VR x e v v)
    (F : Nat) (hF : depth e + 1 ≤ F) :
    Rel (· = .fuel) (VR x e) (VsRx x e q)
      (eval bi (F + 1) (.seq (.assign x e) b) .nil vs) (eval bi (F + (depth e + 1)) (subst x e b) .nil vs) := by
  rw [eval_let bi he hq hF]
  refine sim bi he hq (depth e + 1) (Nat.lt_succ_self _) F b true .nil .nil _ vs .nil hb ⟨lookup_setVar_same vs x _, fun y hy => ?_⟩
  rw [lookup_setVar_other vs x y _ hy]
  rcases hgood y hy with h | ⟨v, h, hv⟩
  · exact .inl ⟨h, h⟩
  · exact .inr ⟨v, v, h, h, hv⟩

variable (x e q)

/-- stored values that `hgood` of `let_rel` admits: numbers, unit, closures over the EMPTY captured scope whose body does not mention `x` -/
theorem VR_num (r : Rat) : VR x e (.num r) (.num r) := rfl
theorem VR_unit : VR x e .unit .unit := rfl
theorem VR_closed_fn (p : String) (body : Expr) (hp : p ≠ x) (hbody : NoX x body = true) : VR x e (.fn p body .nil) (.fn p body .nil) :=
  ⟨false, .nil, rfl, hbody, hp, .nil⟩

end
end Fend.Scope.LetF
