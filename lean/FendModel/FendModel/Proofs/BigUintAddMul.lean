/-
`add_assign_internal` is `self += (other * d) << (64 * shift)`, the carry loop under both `add` and `mul`
(`mul` runs it once per limb of `other`, at that limb's offset). The value equations hold for limbs of any
size; `WF` is needed only to show that the limbs stay below `2^64`.
-/
import FendModel.Proofs.BigUintLimbs

namespace Fend.BigUint

/-- one step of the carry loop, `P = B ^ i`: `hs` is `val_set`, `hdm` splits the limb sum -/
theorem carry_step (V V' P a m q c b d H : Nat) (hs : V' + a * P = V + m * P)
    (hdm : B * q + m = a + b * d + c) :
    V' + P * B * (q + d * H) = V + P * (c + d * (b + B * H)) := by
  apply Nat.add_right_cancel (m := a * P)
  calc V' + P * B * (q + d * H) + a * P
      = (V' + a * P) + P * B * (q + d * H) := by ring
    _ = V + P * (B * q + m) + P * B * d * H := by rw [hs]; ring
    _ = V + P * (c + d * (b + B * H)) + a * P := by rw [hdm]; ring

theorem aaiLoop_spec (other : BigUint) (d shift n i : Nat) (s : BigUint) (c : Nat) (hle : i ≤ n) :
    val (aaiLoop other d shift n i s c).1
        + B ^ n * ((aaiLoop other d shift n i s c).2 + d * valFrom (shiftLimbs other shift) n)
      = val s + B ^ i * (c + d * valFrom (shiftLimbs other shift) i)
    ∧ ∀ j, n ≤ j → (aaiLoop other d shift n i s c).1.get j = s.get j := by
  fun_induction aaiLoop other d shift n i s c with
  | case1 i s c hlt a b sum ih =>
    obtain ⟨h1, h2⟩ := ih hlt
    refine ⟨?_, fun j hj => ?_⟩
    · rw [h1, valFrom_succ _ i, get_shiftLimbs, pow_succ]
      exact carry_step _ _ _ a _ _ c b d _ (val_set s i (sum % B)) (Nat.div_add_mod sum B)
    · rw [h2 j hj, get_set, if_neg (by omega)]
  | case2 i s c hlt => rw [Nat.le_antisymm hle (Nat.le_of_not_lt hlt)]; exact ⟨rfl, fun _ _ => rfl⟩

theorem addAssignInternal_eq (self other : BigUint) (d shift : Nat) :
    addAssignInternal self other d shift =
      let n := max self.valueLen (other.valueLen + shift)
      let r := aaiLoop other d shift n 0 self 0
      if r.2 ≠ 0 then r.1.set n r.2 else r.1 := rfl

theorem addAssignInternal_val (self other : BigUint) (d shift : Nat) :
    val (addAssignInternal self other d shift) = val self + val other * d * B ^ shift := by
  rw [addAssignInternal_eq]
  obtain ⟨n, hn⟩ : ∃ n, n = max self.valueLen (other.valueLen + shift) := ⟨_, rfl⟩
  have ⟨h1, h2⟩ := aaiLoop_spec other d shift n 0 self 0 (Nat.zero_le _)
  rw [valFrom_of_le _ _ (by rw [valueLen_shiftLimbs, hn, Nat.add_comm]; exact Nat.le_max_right _ _),
    valFrom_zero, val_shiftLimbs] at h1
  simp only [Nat.mul_zero, Nat.add_zero, pow_zero, Nat.zero_add, Nat.one_mul] at h1
  simp only [← hn]
  generalize aaiLoop other d shift n 0 self 0 = r at h1 h2 ⊢
  split
  · -- the carry goes to limb `n`, which is still the zero beyond `self`
    have h3 := val_set r.1 n r.2
    rw [h2 n (Nat.le_refl n), get_of_le self n (hn ▸ Nat.le_max_left _ _), Nat.zero_mul, Nat.add_zero] at h3
    rw [h3, Nat.mul_comm r.2, h1]; ring
  · rw [of_not_not ‹¬ r.2 ≠ 0›, Nat.mul_zero, Nat.add_zero] at h1
    rw [h1]; ring

theorem add_val (a b : BigUint) : val (a.add b) = val a + val b := by
  unfold add; rw [addAssignInternal_val]; simp

/-- `a + b * d + c ≤ (B-1) + (B-1)² + (B-1) < B²`, so the carry out of a limb is again a `u64` -/
theorem carry_lt (a b c d : Nat) (ha : a < B) (hb : b < B) (hc : c < B) (hd : d < B) :
    (a + b * d + c) / B < B := by
  have hbd : b * d ≤ (B - 1) * (B - 1) := Nat.mul_le_mul (by omega) (by omega)
  have : (B - 1) * (B - 1) + 2 * B ≤ B * B + 1 := by decide
  rw [Nat.div_lt_iff_lt_mul B_pos]
  omega

theorem aaiLoop_WF (other : BigUint) (ho : other.WF) (d shift n : Nat) (hd : d < B) (i : Nat)
    (s : BigUint) (c : Nat) (hs : s.WF) (hc : c < B) :
    (aaiLoop other d shift n i s c).1.WF ∧ (aaiLoop other d shift n i s c).2 < B := by
  fun_induction aaiLoop other d shift n i s c with
  | case1 i s c hlt a b sum ih =>
    have hb : b < B := by
      rw [show b = (shiftLimbs other shift).get i from (get_shiftLimbs other shift i).symm]
      exact get_lt _ (WF_shiftLimbs other shift ho) i
    exact ih (WF_set s i _ hs (Nat.mod_lt _ B_pos)) (carry_lt a b c d (get_lt s hs i) hb hc hd)
  | case2 i s c hlt => exact ⟨hs, hc⟩

theorem addAssignInternal_WF (self other : BigUint) (d shift : Nat) (hs : self.WF) (ho : other.WF)
    (hd : d < B) : (addAssignInternal self other d shift).WF := by
  have h := aaiLoop_WF other ho d shift (max self.valueLen (other.valueLen + shift)) hd 0 self 0 hs B_pos
  rw [addAssignInternal_eq]
  dsimp only
  split
  · exact WF_set _ _ _ h.1 h.2
  · exact h.1

theorem add_WF (a b : BigUint) (ha : a.WF) (hb : b.WF) : (a.add b).WF :=
  addAssignInternal_WF a b 1 0 ha hb (by decide)

theorem mulLoop_spec (sc other : BigUint) (n i : Nat) (acc : BigUint) (hle : i ≤ n) :
    val (mulLoop sc other n i acc) + val sc * (B ^ n * valFrom other n)
      = val acc + val sc * (B ^ i * valFrom other i) := by
  fun_induction mulLoop sc other n i acc with
  | case1 i acc hlt ih => rw [ih hlt, addAssignInternal_val, valFrom_succ other i, pow_succ]; ring
  | case2 i acc hlt => rw [Nat.le_antisymm hle (Nat.le_of_not_lt hlt)]

theorem mulInternal_val (a b : BigUint) : val (mulInternal a b) = val a * val b := by
  fun_cases mulInternal a b with
  | case1 hz =>
    exact (Nat.mul_eq_zero.mpr (((Bool.or_eq_true _ _).mp hz).imp (isZero_iff a).mp (isZero_iff b).mp)).symm
  | case2 hz =>
    have := mulLoop_spec a b b.valueLen 0 (large [0]) (Nat.zero_le _)
    rwa [valFrom_of_le b _ (Nat.le_refl _), valFrom_zero, Nat.mul_zero, Nat.mul_zero, Nat.add_zero,
      pow_zero, Nat.one_mul, show val (large [0]) = 0 from rfl, Nat.zero_add] at this

/-- multiplication is exact for every pair of limb vectors, canonical or not -/
theorem mul_val (a b : BigUint) : val (a.mul b) = val a * val b := by
  unfold mul
  split
  · split
    · rfl
    · exact mulInternal_val _ _
  · exact mulInternal_val _ _

theorem mulLoop_WF (sc other : BigUint) (hsc : sc.WF) (ho : other.WF) (n i : Nat) (acc : BigUint)
    (hacc : acc.WF) : (mulLoop sc other n i acc).WF := by
  fun_induction mulLoop sc other n i acc with
  | case1 i acc hlt ih => exact ih (addAssignInternal_WF acc sc _ i hacc hsc (get_lt other ho i))
  | case2 i acc hlt => exact hacc

theorem mulInternal_WF (a b : BigUint) (ha : a.WF) (hb : b.WF) : (mulInternal a b).WF := by
  unfold mulInternal
  split
  · exact B_pos
  · exact mulLoop_WF a b ha hb _ 0 _ (WFL_zeros 1)

theorem mul_WF (a b : BigUint) (ha : a.WF) (hb : b.WF) : (a.mul b).WF := by
  unfold mul
  split
  · split
    · assumption
    · exact mulInternal_WF _ _ ha hb
  · exact mulInternal_WF _ _ ha hb

end Fend.BigUint
