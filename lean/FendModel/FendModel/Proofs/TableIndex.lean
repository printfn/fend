/-
Kernel evaluation reaches row `i` of a list in `i` steps, so a sweep that looks rows up by index is quadratic in the table.
`Trie.build d l` lays the first `2 ^ d` rows of a list out as a binary tree of depth `d`; the kernel builds it once (its
weak-head normal forms are shared between the lookups of one evaluation) and then reaches any row in `d` steps.
-/

namespace Fend

inductive Trie (α : Type) where
  | leaf : Option α → Trie α
  /-- `node h l r`: the first `h` rows are under `l`, the others under `r` -/
  | node : Nat → Trie α → Trie α → Trie α

namespace Trie
variable {α : Type}

/-- the left subtree is built from the whole list: `get` never looks past its first `2 ^ d` rows -/
def build : Nat → List α → Trie α
  | 0, l => leaf l.head?
  | d + 1, l => node (2 ^ d) (build d l) (build d (l.drop (2 ^ d)))

/-- a `Bool` test: `Nat.blt` unfolds to the kernel's built-in `Nat.ble`, while `i < h` first goes through `Nat.decLt` and
`Bool.decEq`, which makes a sweep nearly a third dearer -/
def get : Trie α → Nat → Option α
  | leaf x, i => if i = 0 then x else none
  | node h l r, i => bif i.blt h then l.get i else r.get (i - h)

theorem get_build (d : Nat) (l : List α) (i : Nat) : (build d l).get i = if i < 2 ^ d then l[i]? else none := by
  induction d generalizing l i with
  | zero => cases i <;> simp [build, get, List.head?_eq_getElem?]
  | succ d ih =>
    rw [build, get, ih, ih, List.getElem?_drop, Nat.pow_succ, Nat.mul_two]
    simp only [Bool.cond_eq_ite, Nat.blt_eq]
    by_cases h : i < 2 ^ d
    · rw [if_pos h, if_pos h, if_pos (Nat.lt_add_right _ h)]
    · rw [if_neg h, Nat.add_sub_cancel' (Nat.le_of_not_lt h)]
      simp only [Nat.sub_lt_iff_lt_add (Nat.le_of_not_lt h)]

def lookup (l : List α) (i : Nat) : Option α := (build (l.length.log2 + 1) l).get i

theorem lookup_eq (l : List α) (i : Nat) : lookup l i = l[i]? := by
  rw [lookup, get_build]
  split
  · rfl
  · exact (List.getElem?_eq_none (Nat.le_trans (Nat.le_of_lt Nat.lt_log2_self) (Nat.le_of_not_lt ‹_›))).symm

end Trie
end Fend
