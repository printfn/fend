/-
Round trip of the arithmetic levels of the parser model below the ladder of `Proofs/Parser.lean`:
atoms, `!`, right-associative `^` with unary minus, `* / mod`, `+ -`.
-/
import FendModel.Proofs.Parser

namespace Fend.Parser

def AtomStarts (t0 : Tok) : Prop := (∃ n, t0 = .num n) ∨ t0 = .sym .openP

theorem AtomStarts.starts {t0 : Tok} (h : AtomStarts t0) : Starts t0 := h.elim .inl fun h => .inr (.inl h)

def AtomOK (e : Expr) (t0 : Tok) (ts : List Tok) : Prop :=
  AtomStarts t0 ∧ isApplyMul e = false ∧ Parses .atom (fun _ => True) (t0 :: ts) e

inductive FTree where
  | atom (e : Expr) (t0 : Tok) (ts : List Tok) (ok : AtomOK e t0 ts)
  | fact (f : FTree)

def FTree.toExpr : FTree → Expr
  | .atom e _ _ _ => e
  | .fact f => .fact f.toExpr
def FTree.toToks : FTree → List Tok
  | .atom _ t0 ts _ => t0 :: ts
  | .fact f => f.toToks ++ [.sym .fact]

/-- the `!` level has the shape of the left-associative ones, with a postfix operator in place of the binary ones -/
def factLevel : LeftLevel where
  entry := .factorial
  next := .atom
  loop := .factLoop
  ops := []
  level := 0
  enter h := by simp [run, h]
  step hop := nomatch hop
  ops_prec _ hp := nomatch hp
  stop h := by simp [run, h.no_symHead (s := .fact) (by decide)]

theorem ftree_enters (f : FTree) : Enters factLevel f.toToks f.toExpr := by
  induction f with
  | atom e t0 ts ok => exact .one (ok.2.2.weaken fun _ _ => trivial)
  -- `!` is one round of the loop without an operand
  | fact f ih => exact ih.round (fun t => .sym (by decide) t) ⟨0, fun _ _ _ _ => rfl⟩

theorem ftree_ok (f : FTree) : Parses .factorial (Stop 1) f.toToks f.toExpr :=
  (ftree_enters f).parses

theorem ftree_starts (f : FTree) : StartsWith AtomStarts f.toToks := by
  induction f with
  | atom e t0 ts ok => exact ⟨t0, ts, rfl, ok.1⟩
  | fact f ih => exact ih.append _

inductive UTree where
  | neg (u : UTree)
  | plain (f : FTree)
  | pow (f : FTree) (u : UTree)

def UTree.toExpr : UTree → Expr
  | .neg u => .neg u.toExpr
  | .plain f => f.toExpr
  | .pow f u => .bop .pow f.toExpr u.toExpr
def UTree.toToks : UTree → List Tok
  | .neg u => .sym .sub :: u.toToks
  | .plain f => f.toToks
  | .pow f u => f.toToks ++ .sym .pow :: u.toToks

/-- on text that begins as an atom does, the unary signs are not in play -/
theorem run_power {t0 : Tok} (hstart : AtomStarts t0) (fuel : Nat) (toks : List Tok) :
    run (fuel + 1) (.power true) (t0 :: toks) =
      match run fuel .factorial (t0 :: toks) with
      | some (res, rest) =>
        match symHead rest .pow with
        | some rest' => match run fuel (.power true) rest' with
          | some (rhs, rem) => some (.bop .pow res rhs, rem)
          | none => none
        | none => some (res, rest)
      | none => none := by
  rcases hstart with ⟨n, rfl⟩ | rfl <;> rfl

theorem utree_ok (u : UTree) : Parses (.power true) (Stop 2) u.toToks u.toExpr := by
  induction u with
  | neg u ih =>
    refine Ev.of_add (d := 1) (ih.mono fun fuel h rest hr => ?_)
    simp [UTree.toToks, UTree.toExpr, run, h rest hr]
  | plain f =>
    obtain ⟨t0, ts, hts, hstart⟩ := ftree_starts f
    refine (ftree_ok f).step fun fuel rest hr h => ?_
    have h := h (hr.le (by decide))
    rw [hts, List.cons_append] at h
    simp [UTree.toExpr, hts, run_power hstart, h, hr.no_symHead (s := .pow) (by decide)]
  | pow f u ih =>
    obtain ⟨t0, ts, hts, hstart⟩ := ftree_starts f
    refine Ev.of_add (d := 1) (((ftree_ok f).and ih).mono fun fuel ⟨hf, hu⟩ rest hr => ?_)
    have h := hf (.sym .pow :: (u.toToks ++ rest)) (.sym (by decide) _)
    rw [hts, List.cons_append] at h
    simp [UTree.toToks, UTree.toExpr, hts, run_power hstart, h, symHead, hu rest hr]

theorem utree_starts : (u : UTree) → StartsWith Starts u.toToks
  | .neg _ => ⟨_, _, rfl, .inr (.inr rfl)⟩
  | .plain f => (ftree_starts f).mono fun _ => AtomStarts.starts
  | .pow f _ => ((ftree_starts f).mono fun _ => AtomStarts.starts).append _

def mulOps : List (Sym × Bop) := [(.mul, .mul), (.div, .div), (.mod, .mod)]

inductive MTree where
  | one (u : UTree)
  | snoc (m : MTree) (s : Sym) (op : Bop) (h : (s, op) ∈ mulOps) (u : UTree)

def MTree.toExpr : MTree → Expr
  | .one u => u.toExpr
  | .snoc m _ op _ u => .bop op m.toExpr u.toExpr
def MTree.toToks : MTree → List Tok
  | .one u => u.toToks
  | .snoc m s _ _ u => m.toToks ++ .sym s :: u.toToks

/- Nothing but a number, an identifier or `(` begins an operand, so in front of a symbol other than `(` the attempts of
the `* / mod` loop to go on by juxtaposition fail. -/

theorem atom_fails {rest : List Tok} (h : After (· ≠ .openP) rest) (fuel : Nat) : run fuel .atom rest = none := by
  cases fuel with
  | zero => rfl
  | succ fuel =>
    rcases h with rfl | ⟨s, r, rfl, hs⟩
    · rfl
    · simp [run, hs]

theorem factorial_fails {rest : List Tok} (h : After (· ≠ .openP) rest) (fuel : Nat) : run fuel .factorial rest = none := by
  cases fuel with
  | zero => rfl
  | succ fuel => simp [run, atom_fails h]

theorem power_false_fails {rest : List Tok} (h : After (· ≠ .openP) rest) (fuel : Nat) : run fuel (.power false) rest = none := by
  cases fuel with
  | zero => rfl
  | succ fuel => simp [run, factorial_fails h fuel]

theorem mixedFraction_fails {rest : List Tok} (h : After (· ≠ .openP) rest) (fuel : Nat) (lhs : Expr) :
    run fuel (.mixedFraction lhs) rest = none := by
  cases fuel with
  | zero => rfl
  | succ fuel =>
    simp only [run]
    split
    · rfl
    · simp [power_false_fails h]

theorem applyCont_fails {rest : List Tok} (h : After (· ≠ .openP) rest) (fuel : Nat) (lhs : Expr) :
    run fuel (.applyCont lhs) rest = none := by
  cases fuel with
  | zero => rfl
  | succ fuel => simp [run, power_false_fails h]

theorem mulLoop_stops (fuel : Nat) (res : Expr) {rest : List Tok} (h : After (· ∉ [.openP, .mul, .div, .mod]) rest) :
    run (fuel + 1) (.mulLoop res) rest = some (res, rest) := by
  have ha : After (· ≠ .openP) rest := h.mono fun _ hs e => hs (e ▸ .head _)
  rcases h with rfl | ⟨s, r, rfl, hs⟩
  · simp [run, mixedFraction_fails ha, applyCont_fails ha]
  · simp at hs
    simp [run, mixedFraction_fails ha, applyCont_fails ha, hs]

def mulLevel : LeftLevel where
  entry := .multiplicative
  next := .power true
  loop := .mulLoop
  ops := mulOps
  level := 2
  enter h := by simp [run, h]
  step hop hb := by
    simp [mulOps] at hop
    rcases hop with ⟨rfl, rfl⟩ | ⟨rfl, rfl⟩ | ⟨rfl, rfl⟩ <;> simp [run, hb]
  ops_prec := by decide
  stop h := mulLoop_stops _ _ (h.notMem (by decide))

theorem mtree_enters (m : MTree) : Enters mulLevel m.toToks m.toExpr := by
  induction m with
  | one u => exact .one (utree_ok u)
  | snoc m s op h u ih => exact ih.snoc h (utree_ok u)

theorem mtree_ok (m : MTree) : Parses .multiplicative (Stop 3) m.toToks m.toExpr :=
  (mtree_enters m).parses

theorem mtree_notMul : (m : MTree) → isApplyMul m.toExpr = false
  | .one (.plain (.atom _ _ _ ok)) => ok.2.1
  | .one (.plain (.fact _)) | .one (.neg _) | .one (.pow _ _) | .snoc .. => rfl

/-- a product that is not a number-unit juxtaposition is not the start of an implicit sum (`5 ft 3 in`) -/
theorem implicitAdd_of_mul {fuel : Nat} {input rest : List Tok} {r : Expr}
    (h : run fuel .multiplicative input = some (r, rest)) (hr : isApplyMul r = false) :
    run (fuel + 1) .implicitAdd input = some (r, rest) := by
  simp only [run, h]
  cases run fuel .implicitAdd rest with
  | none => rfl
  | some p => simp [hr]

theorem mtree_implicitAdd (m : MTree) : Parses .implicitAdd (Stop 3) m.toToks m.toExpr :=
  (mtree_ok m).step fun _ _ hr h => implicitAdd_of_mul (h hr) (mtree_notMul m)

def addOps : List (Sym × Bop) := [(.add, .plus), (.sub, .minus)]

inductive ATree where
  | one (m : MTree)
  | snoc (a : ATree) (s : Sym) (op : Bop) (h : (s, op) ∈ addOps) (m : MTree)

def ATree.toExpr : ATree → Expr
  | .one m => m.toExpr
  | .snoc a _ op _ m => .bop op a.toExpr m.toExpr
def ATree.toToks : ATree → List Tok
  | .one m => m.toToks
  | .snoc a s _ _ m => a.toToks ++ .sym s :: m.toToks

theorem addLoop_stops (fuel : Nat) (res : Expr) {rest : List Tok} (h : After (· ∉ [.add, .sub, .conv]) rest) :
    run (fuel + 1) (.addLoop res) rest = some (res, rest) := by
  rcases h with rfl | ⟨s, r, rfl, hs⟩
  · simp [run]
  · simp at hs
    simp [run, hs]

def addLevel : LeftLevel where
  entry := .additive
  next := .implicitAdd
  loop := .addLoop
  ops := addOps
  level := 3
  enter h := by simp [run, h]
  step hop hb := by
    simp [addOps] at hop
    rcases hop with ⟨rfl, rfl⟩ | ⟨rfl, rfl⟩ <;> simp [run, hb]
  ops_prec := by decide
  stop h := addLoop_stops _ _ (h.notMem (by decide))

theorem atree_enters (a : ATree) : Enters addLevel a.toToks a.toExpr := by
  induction a with
  | one m => exact .one (mtree_implicitAdd m)
  | snoc a s op h m ih => exact ih.snoc h (mtree_implicitAdd m)

theorem atree_base (a : ATree) : BaseOK a.toExpr a.toToks :=
  (atree_enters a).parses.weaken fun _ => (follow_iff (by decide)).1

theorem mtree_starts (m : MTree) : StartsWith Starts m.toToks := by
  induction m with
  | one u => exact utree_starts u
  | snoc m s op h u ih => exact ih.append _

theorem atree_starts (a : ATree) : StartsWith Starts a.toToks := by
  induction a with
  | one m => exact mtree_starts m
  | snoc a s op h m ih => exact ih.append _

end Fend.Parser
