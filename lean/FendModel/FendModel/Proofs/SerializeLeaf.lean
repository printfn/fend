/-
One `rtX : RT XRep serX deX` per non-recursive type; `XRep` says what `serialize` can write (lengths and limbs within `u64`, valid
UTF-8, a non-zero denominator, …).  Records are their fields' `RT.step`s in turn, tagged sums `tag_step` and then the branch.
-/
import FendModel.Proofs.SerializePrim

namespace Fend.Ser
open BigUint (small large)

def UintRep : BigUint → Prop
  | .small n => U64 n
  | .large v => v ≠ [] ∧ U64 v.length ∧ ∀ x ∈ v, U64 x

theorem rtUint : RT UintRep serUint deUint := fun b h rest => by
  cases b with
  | small n =>
    simp only [serUint, deUint, List.cons_append, List.nil_append, tag_step, ↓reduceIte]
    exact rtU64.step h
  | large v =>
    -- the decoder's steps in turn: tag 2 (`tag_step`), the length (`rtU64.step`), not zero since `v ≠ []` (`h.1`), then the limbs
    simp only [serUint, deUint, List.cons_append, List.nil_append, List.append_assoc, tag_step, ↓reduceIte,
      Nat.reduceEqDiff, rtU64.step h.2.1, List.length_eq_zero_iff, h.1]
    exact (rtU64.listN _).step ⟨rfl, h.2.2⟩

def RatRep (q : BigRat) : Prop := UintRep q.num ∧ UintRep q.den ∧ isZeroU q.den = false

theorem rtRat : RT RatRep serRat deRat := fun ⟨neg, n, d⟩ h rest => by
  cases neg <;>
    simp only [serRat, deRat, List.cons_append, List.nil_append, List.append_assoc, tag_step, rtUint.step h.1,
      rtUint.step h.2.1, h.2.2] <;>
    rfl

def RealRep : Real → Prop
  | .simple q => RatRep q
  | .pi q => RatRep q

theorem rtReal : RT RealRep serReal deReal := fun x h rest => by
  cases x <;>
    simp only [serReal, deReal, List.cons_append, List.nil_append, tag_step, ↓reduceIte, Nat.reduceEqDiff] <;>
    exact rtRat.step h

def ComplexRep (c : Complex) : Prop := RealRep c.re ∧ RealRep c.im

theorem rtComplex : RT ComplexRep serComplex deComplex := fun c h rest => by
  simp only [serComplex, deComplex, List.append_assoc, rtReal.step h.1, rtReal.step h.2]

def BaseRep : Base → Prop
  | .custom b => 2 ≤ b ∧ b ≤ 36
  | .plain b => 2 ≤ b ∧ b ≤ 36
  | _ => True

theorem rtBase : RT BaseRep serBase deBase := fun b h rest => by
  cases b <;>
    simp only [serBase, deBase, List.cons_append, List.nil_append, tag_step, ↓reduceIte, Nat.reduceEqDiff] <;>
    exact if_neg (by simp only [BaseRep] at h; omega)

def FmtRep : Fmt → Prop
  | .dp n => U64 n
  | .sf n => U64 n
  | _ => True

theorem rtFmt : RT FmtRep serFmt deFmt := fun f h rest => by
  cases f <;>
    simp only [serFmt, deFmt, List.cons_append, List.nil_append, tag_step, ↓reduceIte, Nat.reduceEqDiff] <;>
    exact rtU64.step h

def BaseEntryRep (p : Str × Complex) : Prop := StrRep p.1 ∧ ComplexRep p.2

theorem rtBaseEntry : RT BaseEntryRep (fun p => serStr p.1 ++ serComplex p.2) deBaseEntry :=
  rtStr.pair rtComplex

def NamedUnitRep (u : NamedUnit) : Prop :=
  StrRep u.pref ∧ StrRep u.singular ∧ StrRep u.plural ∧ U64 u.base.length ∧
    (∀ p ∈ u.base, BaseEntryRep p) ∧ ComplexRep u.scale

theorem rtNamedUnit : RT NamedUnitRep serNamedUnit deNamedUnit := fun u ⟨h1, h2, h3, h4, h5, h6⟩ rest => by
  simp only [serNamedUnit, deNamedUnit, List.append_assoc, rtStr.step h1, rtStr.step h2, rtStr.step h3,
    rtBool.step trivial, rtBaseEntry.list.step ⟨h4, h5⟩, rtComplex.step h6]

def UnitExpRep (u : UnitExp) : Prop := NamedUnitRep u.unit ∧ ComplexRep u.exp

theorem rtUnitExp : RT UnitExpRep serUnitExp deUnitExp := fun u h rest => by
  simp only [serUnitExp, deUnitExp, List.append_assoc, rtNamedUnit.step h.1, rtComplex.step h.2]

def DistEntryRep (p : Complex × BigRat) : Prop := ComplexRep p.1 ∧ RatRep p.2

theorem rtDistEntry : RT DistEntryRep (fun p => serComplex p.1 ++ serRat p.2) deDistEntry :=
  rtComplex.pair rtRat

def NumberRep (n : Number) : Prop :=
  U64 n.dist.length ∧ (∀ p ∈ n.dist, DistEntryRep p) ∧
  U64 n.unit.length ∧ (∀ u ∈ n.unit, UnitExpRep u) ∧ BaseRep n.base ∧ FmtRep n.fmt

theorem rtNumber : RT NumberRep serNumber deNumber := fun n ⟨h1, h2, h3, h4, h5, h6⟩ rest => by
  simp only [serNumber, deNumber, List.append_assoc, rtDistEntry.list.step ⟨h1, h2⟩,
    rtUnitExp.list.step ⟨h3, h4⟩, rtBool.step trivial, rtBase.step h5, rtFmt.step h6]

def DateRep (d : SDate) : Prop :=
  d.year ≠ 0 ∧ -2147483648 ≤ d.year ∧ d.year < 2147483648 ∧ 1 ≤ d.month ∧ d.month ≤ 12 ∧ 1 ≤ d.day ∧ d.day ≤ 31

theorem rtMonth : RT (fun m => 1 ≤ m ∧ m ≤ 12) serU8 deMonth := fun m h rest => by
  simp only [serU8, deMonth, List.cons_append, List.nil_append, tag_step, h, and_self, ↓reduceIte]

theorem rtDate : RT DateRep serDate deDate := fun d ⟨h0, h1, h2, h3, h4, h5, h6⟩ rest => by
  simp only [serDate, deDate, List.append_assoc, rtI32.step ⟨h1, h2⟩, h0, ↓reduceIte]
  exact (rtMonth.step ⟨h3, h4⟩).trans ((tag_step ..).trans (if_neg (by omega)))

/-- every built-in function name is read back as the same function -/
theorem deBuiltin_table :
    ∀ i, i < builtinNames.length →
      builtinAccepted.idxOf? (builtinNames.getD i []) = some i ∧
      builtinNames.idxOf (builtinNames.getD i []) = i ∧
      (builtinNames.getD i []).length < 18446744073709551616 ∧ validUtf8 (builtinNames.getD i []) = true := by
  decide +kernel

theorem rtBuiltin : RT (· < builtinNames.length) serBuiltin deBuiltin := fun i h rest => by
  obtain ⟨h1, h2, h3⟩ := deBuiltin_table i h
  simp only [serBuiltin, deBuiltin, rtStr.step h3, h1, h2]

end Fend.Ser
