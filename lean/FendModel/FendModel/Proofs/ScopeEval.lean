/-
`eval` read as a program in the error-and-state monad: one equation per constructor of `Expr`, written with `andThen`, and
the relation `Rel` between two evaluations that `andThen` respects.  A simulation between two ways of evaluating (β, `let`)
then has to say something only where names are resolved, closures are made and entered, and variables are assigned.
-/
import FendModel.Model.Scope

namespace Fend.Scope

theorem lookup_setVar (vs : Vars) (x y : String) (v : Value) :
    lookup (setVar vs x v) y = if x = y then some v else lookup vs y := by
  fun_induction setVar vs x v with
  | case1 => rfl
  | case2 w t => exact ite_congr rfl (fun _ => rfl) fun h => (if_neg h).symm
  | case3 k w t hk ih =>
    rw [lookup, ih, lookup]
    by_cases h : x = y
    · rw [if_pos h, if_pos h, if_neg (h ▸ hk)]
    · rw [if_neg h, if_neg h]

theorem lookup_setVar_same (vs : Vars) (x : String) (v : Value) : lookup (setVar vs x v) x = some v := by
  rw [lookup_setVar, if_pos rfl]

theorem lookup_setVar_other (vs : Vars) (x y : String) (v : Value) (h : y ≠ x) : lookup (setVar vs x v) y = lookup vs y := by
  rw [lookup_setVar, if_neg (Ne.symm h)]

theorem Scope.find_cons_self (x : String) (a : Expr) (C S : Scope) : (Scope.cons x a C S).find x = some (a, C) :=
  if_pos rfl

theorem Scope.find_cons_ne {p y : String} (h : p ≠ y) (a : Expr) (C S : Scope) : (Scope.cons p a C S).find y = S.find y :=
  if_neg h

def andThen (a : Except Err Value × Vars) (k : Value → Vars → Except Err Value × Vars) : Except Err Value × Vars :=
  match a with
  | (.ok v, vs) => k v vs
  | (.error er, vs) => (.error er, vs)

theorem andThen_ok (v : Value) (vs : Vars) (k : Value → Vars → Except Err Value × Vars) : andThen (.ok v, vs) k = k v vs := rfl

def Value.rat : Value → Except Err Rat
  | .num q => .ok q
  | _ => .error .badOperands

def global (bi : List (String × Rat)) (vs : Vars) (y : String) : Except Err Value :=
  match lookup vs y with
  | some v => .ok v
  | none =>
    match bi.find? (fun p => p.1 = y) with
    | some (_, q) => .ok (.num q)
    | none => .error (.unknownIdent y)

section equations
variable (bi : List (String × Rat)) (f : Nat) (S : Scope) (vs : Vars)

theorem eval_zero (t : Expr) : eval bi 0 t S vs = (.error .fuel, vs) := rfl
theorem eval_num (q : Rat) : eval bi (f + 1) (.num q) S vs = (.ok (.num q), vs) := rfl
theorem eval_unitLit : eval bi (f + 1) .unitLit S vs = (.ok .unit, vs) := rfl
theorem eval_parens (t : Expr) : eval bi (f + 1) (.parens t) S vs = eval bi f t S vs := rfl
theorem eval_lam (y : String) (b : Expr) : eval bi (f + 1) (.lam y b) S vs = (.ok (.fn y b S), vs) := rfl

theorem eval_var_param {y : String} {a : Expr} {C : Scope} (h : S.find y = some (a, C)) :
    eval bi (f + 1) (.var y) S vs = eval bi f a C vs := by
  -- `dsimp`, not `simp`: for `simp only [eval]` Lean derives the splitting lemmas of `eval`'s matches again in every proof
  dsimp only [eval]
  rw [h]

theorem eval_var_global {y : String} (h : S.find y = none) : eval bi (f + 1) (.var y) S vs = (global bi vs y, vs) := by
  dsimp only [eval, global]
  rw [h]
  cases lookup vs y with
  | some v => rfl
  | none => cases bi.find? (fun p => p.1 = y) <;> rfl

theorem eval_neg (t : Expr) :
    eval bi (f + 1) (.neg t) S vs = andThen (eval bi f t S vs) fun v w => ((v.rat.map (- ·)).map .num, w) := by
  dsimp only [eval]
  rcases eval bi f t S vs with ⟨_ | v, w⟩
  · rfl
  · cases v <;> rfl

theorem eval_bop (op : Op) (a b : Expr) :
    eval bi (f + 1) (.bop op a b) S vs = andThen (eval bi f a S vs) fun va w => andThen (eval bi f b S w) fun vb w =>
      ((va.rat.bind fun x => vb.rat.bind fun y => arith op x y).map .num, w) := by
  dsimp only [eval]
  rcases eval bi f a S vs with ⟨_ | va, w⟩
  · rfl
  · dsimp only [andThen]
    rcases eval bi f b S w with ⟨_ | vb, w'⟩
    · rfl
    · cases va with
      | num x =>
        cases vb with
        | num y => dsimp only [Value.rat, Except.bind]; cases arith op x y <;> rfl
        | unit | fn => rfl
      | unit | fn => rfl

theorem eval_app (g a : Expr) :
    eval bi (f + 1) (.app g a) S vs = andThen (eval bi f g S vs) fun vg w =>
      match vg with
      | .fn p body C => eval bi f body (.cons p a S C) w
      | .num x => andThen (eval bi f a S w) fun va w => ((va.rat.map (x * ·)).map .num, w)
      | .unit => (.error .notAFunction, w) := by
  dsimp only [eval]
  rcases eval bi f g S vs with ⟨_ | vg, w⟩
  · rfl
  · cases vg with
    | fn | unit => rfl
    | num x =>
      dsimp only [andThen]
      rcases eval bi f a S w with ⟨_ | va, w'⟩
      · rfl
      · cases va <;> rfl

theorem eval_assign (y : String) (t : Expr) :
    eval bi (f + 1) (.assign y t) S vs = andThen (eval bi f t S vs) fun v w => (.ok v, setVar w y v) := rfl

theorem eval_seq (a b : Expr) :
    eval bi (f + 1) (.seq a b) S vs = andThen (eval bi f a S vs) fun _ w => eval bi f b S w := rfl

end equations

theorem subst_var_self (x : String) (r : Expr) : subst x r (.var x) = .parens r := if_pos rfl

theorem subst_var_ne {x y : String} (h : y ≠ x) (r : Expr) : subst x r (.var y) = .var y := if_neg h

def Expr.mapArgs (g : Expr → Expr) : Expr → Expr
  | .parens t => .parens (g t)
  | .neg t => .neg (g t)
  | .bop op a b => .bop op (g a) (g b)
  | .lam y b => .lam y (g b)
  | .app f a => .app (g f) (g a)
  | .assign y t => .assign y (g t)
  | .seq a b => .seq (g a) (g b)
  | t => t

/-- `t` is the variable `x` or a binder of `x`: the two places where `subst x` does something else than go on into the
arguments -/
def Expr.IsNamed (x : String) : Expr → Prop
  | .var y | .lam y _ => y = x
  | _ => False

/-! `subst` switched on by a condition `c`: each simulation substitutes in some of its modes and not in the others
(`sub` of ScopeBetaFull and `sub` of ScopeLetFull unfold to this form). -/
section switch
variable {c : Prop} [Decidable c] {x : String} (r : Expr)

theorem ite_subst (t : Expr) (h : c → ¬t.IsNamed x) :
    (if c then subst x r t else t) = t.mapArgs fun s => if c then subst x r s else s := by
  split
  · next hc =>
    cases t with
    | var y | lam y b => exact if_neg (h hc)
    | _ => rfl
  · cases t <;> rfl

end switch

/-- the arguments of the constructors that bind nothing: what a condition on an expression has to pass down to for `eval`
to go on under it -/
inductive Arg : Expr → Expr → Prop
  | parens {t : Expr} : Arg t (.parens t)
  | neg {t : Expr} : Arg t (.neg t)
  | bop₁ {op : Op} {a b : Expr} : Arg a (.bop op a b)
  | bop₂ {op : Op} {a b : Expr} : Arg b (.bop op a b)
  | app₁ {g a : Expr} : Arg g (.app g a)
  | app₂ {g a : Expr} : Arg a (.app g a)
  | assign {y : String} {t : Expr} : Arg t (.assign y t)
  | seq₁ {a b : Expr} : Arg a (.seq a b)
  | seq₂ {a b : Expr} : Arg b (.seq a b)

/-- every identifier occurring in an expression: variables, binders, assignment targets -/
def namesOf : Expr → List String
  | .num _ => []
  | .unitLit => []
  | .var y => [y]
  | .parens e => namesOf e
  | .neg e => namesOf e
  | .bop _ a b => namesOf a ++ namesOf b
  | .lam y b => y :: namesOf b
  | .app f a => namesOf f ++ namesOf a
  | .assign y e => y :: namesOf e
  | .seq a b => namesOf a ++ namesOf b

theorem Arg.namesOf {t u : Expr} (a : Arg t u) : namesOf t ⊆ namesOf u := by
  cases a with
  | parens | neg => exact fun _ h => h
  | bop₁ | app₁ | seq₁ => exact List.subset_append_left ..
  | bop₂ | app₂ | seq₂ => exact List.subset_append_right ..
  | assign => exact List.subset_cons_self ..

/-- where `eval` resolves no name, makes or enters no closure and assigns no variable -/
def Expr.connective : Expr → Bool
  | .num _ | .unitLit | .parens _ | .neg _ | .bop .. | .seq .. => true
  | _ => false

/-- After an error in `E` on the left nothing is claimed: β claims everything (`E` empty); `let` gives the right side more
fuel and claims nothing once the left side has run out (`E = {fuel}`). -/
inductive Rel (E : Err → Prop) (V : Value → Value → Prop) (W : Vars → Vars → Prop) :
    Except Err Value × Vars → Except Err Value × Vars → Prop
  | esc {er : Err} {w : Vars} {b : Except Err Value × Vars} : E er → Rel E V W (.error er, w) b
  | err {er : Err} {w w' : Vars} : W w w' → Rel E V W (.error er, w) (.error er, w')
  | ok {v v' : Value} {w w' : Vars} : V v v' → W w w' → Rel E V W (.ok v, w) (.ok v', w')

/-- enough of `V` for the operations of `eval` on values not to tell related values apart -/
structure Flat (V : Value → Value → Prop) : Prop where
  num {q : Rat} {w : Value} : V (.num q) w ↔ w = .num q
  unit {w : Value} : V .unit w ↔ w = .unit
  fn {p : String} {b : Expr} {C : Scope} {w : Value} : V (.fn p b C) w → ∃ p' b' C', w = .fn p' b' C'

def LookupR (V : Value → Value → Prop) (vs vs' : Vars) (y : String) : Prop :=
  (lookup vs y = none ∧ lookup vs' y = none) ∨ ∃ v v', lookup vs y = some v ∧ lookup vs' y = some v' ∧ V v v'

def FindR (B : Expr → Scope → Expr → Scope → Prop) (S S' : Scope) (y : String) : Prop :=
  (S.find y = none ∧ S'.find y = none) ∨ ∃ a C a' C', S.find y = some (a, C) ∧ S'.find y = some (a', C') ∧ B a C a' C'

theorem FindR.cons {B : Expr → Scope → Expr → Scope → Prop} {S S' : Scope} {y : String} (h : FindR B S S' y) (p : String)
    {a a' : Expr} {C C' : Scope} (hB : B a C a' C') : FindR B (.cons p a C S) (.cons p a' C' S') y := by
  by_cases hpy : p = y
  · exact .inr ⟨a, C, a', C', if_pos hpy, if_pos hpy, hB⟩
  · rwa [FindR, Scope.find_cons_ne hpy, Scope.find_cons_ne hpy]

section congruence
variable {E : Err → Prop} {V : Value → Value → Prop} {W : Vars → Vars → Prop} {bi : List (String × Rat)}
  {f f' : Nat} {S S' : Scope} {vs vs' : Vars}

theorem Flat.inv (hV : Flat V) {v v' : Value} (h : V v v') :
    v' = v ∨ ∃ p b C p' b' C', v = .fn p b C ∧ v' = .fn p' b' C' := by
  cases v with
  | num q => exact .inl (hV.num.1 h)
  | unit => exact .inl (hV.unit.1 h)
  | fn p b C => obtain ⟨p', b', C', rfl⟩ := hV.fn h; exact .inr ⟨_, _, _, _, _, _, rfl, rfl⟩

theorem Flat.rat (hV : Flat V) {v v' : Value} (h : V v v') : v.rat = v'.rat := by
  rcases hV.inv h with rfl | ⟨_, _, _, _, _, _, rfl, rfl⟩ <;> rfl

theorem Rel.bind {a b : Except Err Value × Vars} {k k' : Value → Vars → Except Err Value × Vars} (h : Rel E V W a b)
    (hk : ∀ {v v' w w'}, V v v' → W w w' → Rel E V W (k v w) (k' v' w')) : Rel E V W (andThen a k) (andThen b k') := by
  cases h with
  | esc h => exact .esc h
  | err hw => exact .err hw
  | ok hv hw => exact hk hv hw

theorem Rel.num (hV : Flat V) (r : Except Err Rat) (hw : W vs vs') : Rel E V W (r.map .num, vs) (r.map .num, vs') := by
  cases r with
  | error er => exact .err hw
  | ok q => exact .ok (hV.num.2 rfl) hw

theorem Rel.var (hV : Flat V) {B : Expr → Scope → Expr → Scope → Prop} {y : String} (hf : FindR B S S' y)
    (hl : LookupR V vs vs' y) (hw : W vs vs')
    (hB : ∀ {a C a' C'}, B a C a' C' → Rel E V W (eval bi f a C vs) (eval bi f' a' C' vs')) :
    Rel E V W (eval bi (f + 1) (.var y) S vs) (eval bi (f' + 1) (.var y) S' vs') := by
  rcases hf with ⟨h, h'⟩ | ⟨a, C, a', C', h, h', hb⟩
  · rw [eval_var_global _ _ _ _ h, eval_var_global _ _ _ _ h']
    rcases hl with ⟨l, l'⟩ | ⟨v, v', l, l', hv⟩
    · simp only [global, l, l']
      cases bi.find? (fun p => p.1 = y) with
      | none => exact .err hw
      | some pq => exact .ok (hV.num.2 rfl) hw
    · simp only [global, l, l']; exact .ok hv hw
  · rw [eval_var_param _ _ _ _ h, eval_var_param _ _ _ _ h']; exact hB hb

theorem Rel.connective (hV : Flat V) {g : Expr → Expr} {t : Expr} (ht : t.connective = true) (hg : g t = t.mapArgs g)
    (h : ∀ {s}, Arg s t → ∀ {w w'}, W w w' → Rel E V W (eval bi f s S w) (eval bi f' (g s) S' w')) (hw : W vs vs') :
    Rel E V W (eval bi (f + 1) t S vs) (eval bi (f' + 1) (g t) S' vs') := by
  rw [hg]
  cases t with
  | num q => exact .ok (hV.num.2 rfl) hw
  | unitLit => exact .ok (hV.unit.2 rfl) hw
  | parens t => exact h .parens hw
  | neg t =>
    simp only [Expr.mapArgs, eval_neg]
    exact (h .neg hw).bind fun hv hw => hV.rat hv ▸ .num hV _ hw
  | bop op a b =>
    simp only [Expr.mapArgs, eval_bop]
    exact (h .bop₁ hw).bind fun hva hw => (h .bop₂ hw).bind fun hvb hw => hV.rat hva ▸ hV.rat hvb ▸ .num hV _ hw
  | seq a b =>
    simp only [Expr.mapArgs, eval_seq]
    exact (h .seq₁ hw).bind fun _ hw => h .seq₂ hw
  | var | lam | app | assign => cases ht

theorem Rel.app (hV : Flat V) {g g' a a' : Expr} (hg : Rel E V W (eval bi f g S vs) (eval bi f' g' S' vs'))
    (ha : ∀ {w w'}, W w w' → Rel E V W (eval bi f a S w) (eval bi f' a' S' w'))
    (hcall : ∀ {p b C p' b' C' w w'}, V (.fn p b C) (.fn p' b' C') → W w w' →
      Rel E V W (eval bi f b (.cons p a S C) w) (eval bi f' b' (.cons p' a' S' C') w')) :
    Rel E V W (eval bi (f + 1) (.app g a) S vs) (eval bi (f' + 1) (.app g' a') S' vs') := by
  rw [eval_app, eval_app]
  refine hg.bind fun {vg vg' w w'} hv hw => ?_
  cases vg with
  | num x => obtain rfl := hV.num.1 hv; exact (ha hw).bind fun hva hw => hV.rat hva ▸ .num hV _ hw
  | unit => obtain rfl := hV.unit.1 hv; exact .err hw
  | fn p b C => obtain ⟨p', b', C', rfl⟩ := hV.fn hv; exact hcall hv hw

theorem Rel.assign {y : String} {t t' : Expr} (h : Rel E V W (eval bi f t S vs) (eval bi f' t' S' vs'))
    (hset : ∀ {v v' w w'}, V v v' → W w w' → W (setVar w y v) (setVar w' y v')) :
    Rel E V W (eval bi (f + 1) (.assign y t) S vs) (eval bi (f' + 1) (.assign y t') S' vs') := by
  rw [eval_assign, eval_assign]
  exact h.bind fun hv hw => .ok hv (hset hv hw)

end congruence

end Fend.Scope
