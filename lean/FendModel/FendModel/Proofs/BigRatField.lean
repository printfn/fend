/-
Expression trees over + - * / and negation, evaluated with the model's `BigRat` operations: the result denotes the
rational value of the tree, however unreduced or oddly represented the intermediate values are, and the only error is
division by an operand whose value is zero. The induction is one `Rep` lemma per constructor.
-/
import FendModel.Proofs.BigRat

namespace Fend
namespace BigRat
open BigUint

inductive QExpr where
  | lit (x : BigRat)
  | neg (a : QExpr)
  | add (a b : QExpr)
  | sub (a b : QExpr)
  | mul (a b : QExpr)
  | div (a b : QExpr)

/-- evaluation with the modelled operations, left operand first (as `ast::evaluate` does) -/
def evalQ : QExpr → R BigRat
  | .lit x => .ok x
  | .neg a => match evalQ a with
    | .ok x => .ok (negate x)
    | .error e => .error e
  | .add a b => match evalQ a with
    | .ok x => (match evalQ b with
      | .ok y => BigRat.add x y
      | .error e => .error e)
    | .error e => .error e
  | .sub a b => match evalQ a with
    | .ok x => (match evalQ b with
      | .ok y => BigRat.sub x y
      | .error e => .error e)
    | .error e => .error e
  | .mul a b => match evalQ a with
    | .ok x => (match evalQ b with
      | .ok y => .ok (BigRat.mul x y)
      | .error e => .error e)
    | .error e => .error e
  | .div a b => match evalQ a with
    | .ok x => (match evalQ b with
      | .ok y => BigRat.div x y
      | .error e => .error e)
    | .error e => .error e

/-- the mathematical value; `none` when some divisor is zero -/
def denote : QExpr → Option Rat
  | .lit x => some (valQ x)
  | .neg a => (denote a).map (fun q => -q)
  | .add a b => do let x ← denote a; let y ← denote b; some (x + y)
  | .sub a b => do let x ← denote a; let y ← denote b; some (x - y)
  | .mul a b => do let x ← denote a; let y ← denote b; some (x * y)
  | .div a b => do let x ← denote a; let y ← denote b; if y = 0 then none else some (x / y)

def LeavesOK : QExpr → Prop
  | .lit x => WFQ x ∧ val x.den ≠ 0
  | .neg a => LeavesOK a
  | .add a b | .sub a b | .mul a b | .div a b => LeavesOK a ∧ LeavesOK b

/-- The `match` of `evalQ` is `>>=`.  Stated after `evalQ` in the same file, so that Lean reuses `evalQ`'s matcher for
the `match` written here and the rewrite applies to the unfolded `evalQ`. -/
theorem evalQ_bind (m : R BigRat) (k : BigRat → R BigRat) :
    (match m with | .ok x => k x | .error e => .error e) = m >>= k := by
  cases m <;> rfl

theorem evalQ_refines (e : QExpr) (hl : LeavesOK e) : Refines Rep (evalQ e) (denote e) := by
  induction e <;> simp only [evalQ, denote, evalQ_bind]
  case lit x => exact ⟨x, rfl, .of_wfq hl.1 hl.2⟩
  case neg a ih => exact (ih hl).map fun _ _ => Rep.negate
  case add a b iha ihb => exact (iha hl.1).bind₂ (ihb hl.2) Rep.add
  case sub a b iha ihb => exact (iha hl.1).bind₂ (ihb hl.2) Rep.sub
  case mul a b iha ihb => exact (iha hl.1).bind₂ (ihb hl.2) fun hx hy => ⟨_, rfl, hx.mul hy⟩
  case div a b iha ihb => exact (iha hl.1).bind₂ (ihb hl.2) Rep.div

end BigRat
end Fend
