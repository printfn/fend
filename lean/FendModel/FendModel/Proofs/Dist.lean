/-
`bop` builds its result by merging one product `(f x y, pₓ p_y)` at a time into an accumulator. Each of the three
facts about the result (probability of an outcome, total mass, distinct outcomes) is an invariant of the accumulator,
carried from `insertMerge` through `bopInner` and `bopOuter` with the accumulator general.
-/
import FendModel.Model.Dist

namespace Fend.Dist

theorem prob_insertMerge (parts : Dist) (n p z : Rat) :
    prob (insertMerge parts n p) z = prob parts z + (if n = z then p else 0) := by
  fun_induction insertMerge parts n p with
  | case1 => simp only [prob]; grind
  | case2 => simp only [prob]; grind
  | case3 k q rest n p hk ih => simp only [prob, ih]; grind

theorem total_insertMerge (parts : Dist) (n p : Rat) : total (insertMerge parts n p) = total parts + p := by
  fun_induction insertMerge parts n p with
  | case1 => simp only [total]; grind
  | case2 => simp only [total]; grind
  | case3 k q rest n p hk ih => simp only [total, ih]; grind

theorem prob_bopInner (f : Rat → Rat → Rat) (n1 p1 : Rat) (rhs parts : Dist) (z : Rat) :
    prob (bopInner f n1 p1 rhs parts) z = prob parts z + convInner f n1 p1 rhs z := by
  fun_induction bopInner f n1 p1 rhs parts with
  | case1 => simp only [convInner]; grind
  | case2 n2 p2 rest parts ih => simp only [convInner, ih, prob_insertMerge]; grind

theorem prob_bopOuter (f : Rat → Rat → Rat) (rhs lhs parts : Dist) (z : Rat) :
    prob (bopOuter f rhs lhs parts) z = prob parts z + conv f lhs rhs z := by
  fun_induction bopOuter f rhs lhs parts with
  | case1 => simp only [conv]; grind
  | case2 n1 p1 rest parts ih => simp only [conv, ih, prob_bopInner]; grind

theorem total_bopInner (f : Rat → Rat → Rat) (n1 p1 : Rat) (rhs parts : Dist) :
    total (bopInner f n1 p1 rhs parts) = total parts + p1 * total rhs := by
  fun_induction bopInner f n1 p1 rhs parts with
  | case1 => simp only [total]; grind
  | case2 n2 p2 rest parts ih => simp only [total, ih, total_insertMerge]; grind

theorem total_bopOuter (f : Rat → Rat → Rat) (rhs lhs parts : Dist) :
    total (bopOuter f rhs lhs parts) = total parts + total lhs * total rhs := by
  fun_induction bopOuter f rhs lhs parts with
  | case1 => simp only [total]; grind
  | case2 n1 p1 rest parts ih => simp only [total, ih, total_bopInner]; grind

theorem total_bop (f : Rat → Rat → Rat) (a b : Dist) : total (bop f a b) = total a * total b := by
  rw [bop, total_bopOuter]
  exact Rat.zero_add _

theorem outcomes_cons (k q : Rat) (rest : Dist) : outcomes ((k, q) :: rest) = k :: outcomes rest := rfl

theorem outcomes_insertMerge (parts : Dist) (n p : Rat) :
    outcomes (insertMerge parts n p) = if n ∈ outcomes parts then outcomes parts else outcomes parts ++ [n] := by
  fun_induction insertMerge parts n p with
  | case1 => rfl
  | case2 => rw [outcomes_cons, outcomes_cons, if_pos (List.mem_cons_self ..)]
  | case3 k q rest n p hk ih =>
    rw [outcomes_cons, outcomes_cons, ih]
    by_cases hn : n ∈ outcomes rest
    · rw [if_pos hn, if_pos (List.mem_cons_of_mem _ hn)]
    · rw [if_neg hn, if_neg (by simp [hn, Ne.symm hk])]
      rfl

theorem nodup_insertMerge (parts : Dist) (n p : Rat) (h : (outcomes parts).Nodup) :
    (outcomes (insertMerge parts n p)).Nodup := by
  rw [outcomes_insertMerge]
  split
  · exact h
  · rename_i hn
    exact List.nodup_append.mpr ⟨h, List.nodup_cons.mpr ⟨nofun, .nil⟩, fun a ha b hb => by
      rw [List.mem_singleton.mp hb]; rintro rfl; exact hn ha⟩

theorem nodup_bopInner (f : Rat → Rat → Rat) (n1 p1 : Rat) (rhs parts : Dist) (h : (outcomes parts).Nodup) :
    (outcomes (bopInner f n1 p1 rhs parts)).Nodup := by
  fun_induction bopInner f n1 p1 rhs parts with
  | case1 => exact h
  | case2 n2 p2 rest parts ih => exact ih (nodup_insertMerge parts _ _ h)

theorem nodup_bopOuter (f : Rat → Rat → Rat) (rhs lhs parts : Dist) (h : (outcomes parts).Nodup) :
    (outcomes (bopOuter f rhs lhs parts)).Nodup := by
  fun_induction bopOuter f rhs lhs parts with
  | case1 => exact h
  | case2 n1 p1 rest parts ih => exact ih (nodup_bopInner f n1 p1 rhs parts h)

theorem sampleLoop_spec (thr : Rat → Nat) (d : Dist) (random : Nat) (res : Option Rat) :
    (d = [] ∧ sampleLoop thr d random res = res) ∨ ∃ r ∈ outcomes d, sampleLoop thr d random res = some r := by
  fun_induction sampleLoop thr d random res with
  | case1 => exact .inl ⟨rfl, rfl⟩
  | case2 k => exact .inr ⟨k, List.mem_cons_self .., rfl⟩
  | case3 k p rest random res random' h0 ih =>
    obtain ⟨-, h⟩ | ⟨r, hr, h⟩ := ih
    · exact .inr ⟨k, List.mem_cons_self .., h⟩
    · exact .inr ⟨r, List.mem_cons_of_mem _ hr, h⟩

theorem sample_spec (thr : Rat → Nat) (d : Dist) (random : Nat) :
    (d = [] ∧ sample thr d random = none) ∨ ∃ r ∈ outcomes d, sample thr d random = some r := by
  fun_cases sample thr d random
  · exact .inr ⟨_, List.mem_cons_self .., rfl⟩
  · exact sampleLoop_spec thr d random none

/-- whatever the random source returns and whatever the threshold function is, `roll` yields one of
the listed outcomes -/
theorem sample_possible (thr : Rat → Nat) (d : Dist) (random : Nat) (r : Rat)
    (h : sample thr d random = some r) : r ∈ outcomes d := by
  obtain ⟨-, ⟨⟩⟩ | ⟨_, hr, ⟨⟩⟩ := h ▸ sample_spec thr d random
  exact hr

end Fend.Dist
