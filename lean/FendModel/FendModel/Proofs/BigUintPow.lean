/-
`BigUint::pow_internal` is square and multiply; it computes the power for every base (any limb vector) and exponent.
`BigUint::pow` chooses between `0^0`, a zero exponent, an exponent beyond a machine word and `pow_internal`:
`pow_eq` states those decisions once on values, and every value or error clause is read off it.
-/
import FendModel.Proofs.BigUintAddMul

namespace Fend
namespace BigUint

theorem powGo_val (e : Nat) (result base : BigUint) :
    val (powInternal.go e result base) = val result * val base ^ e := by
  fun_induction powInternal.go e result base with
  | case1 e result base h result' ih =>
    -- `e = 2 * (e / 2) + e % 2`: the squared base takes the even part, `result'` the odd bit
    rw [ih, mul_val, ← pow_two, ← pow_mul]
    conv_rhs => rw [← Nat.div_add_mod e 2, pow_add]
    show val (if e % 2 = 1 then mul result base else result) * _ = _
    split
    · rw [mul_val, ‹e % 2 = 1›, pow_one]; ring
    · rw [show e % 2 = 0 by omega, pow_zero, Nat.mul_one]
  | case2 e result base h => rw [Nat.eq_zero_of_not_pos h, pow_zero, Nat.mul_one]

theorem powInternal_val (a : BigUint) (e : Nat) : val (powInternal a e) = val a ^ e := by
  rw [powInternal, powGo_val, val_small, Nat.one_mul]

theorem pow_eq (a b : BigUint) : pow a b =
    if val a = 0 ∧ val b = 0 then .error .zeroPowZero
    else if val b = 0 then .ok (small 1)
    else if b.fitsU64 = false then .error .exponentTooLarge
    else .ok (powInternal a (b.get 0)) := by
  simp only [pow, Bool.and_eq_true, isZero_iff, Bool.not_eq_true']

theorem pow_ok (a b r : BigUint) (h : pow a b = .ok r) : val r = val a ^ val b := by
  rw [pow_eq] at h
  split_ifs at h with h1 h2 h3
  · injection h with h; rw [← h, h2]; rfl
  · injection h with h
    rw [← h, powInternal_val, get0_of_fits b (by simpa using h3)]

theorem pow_zero_zero (a b : BigUint) : pow a b = .error .zeroPowZero ↔ val a = 0 ∧ val b = 0 := by
  rw [pow_eq]; split_ifs <;> simp_all

theorem pow_too_large (a b : BigUint) : pow a b = .error .exponentTooLarge ↔ val b ≠ 0 ∧ b.fitsU64 = false := by
  rw [pow_eq]; split_ifs <;> simp_all

theorem powGo_WF (e : Nat) (result base : BigUint) (hr : result.WF) (hb : base.WF) :
    (powInternal.go e result base).WF := by
  fun_induction powInternal.go e result base with
  | case1 e result base h result' ih =>
    refine ih ?_ (mul_WF _ _ hb hb)
    show (if e % 2 = 1 then mul result base else result).WF
    split
    · exact mul_WF _ _ hr hb
    · exact hr
  | case2 e result base h => exact hr

theorem powInternal_WF (a : BigUint) (e : Nat) (ha : a.WF) : (powInternal a e).WF :=
  powGo_WF e _ a one_WF ha

theorem pow_spec (a b : BigUint) (ha : a.WF) (hb : b.WF) :
    (val a = 0 ∧ val b = 0 → pow a b = .error .zeroPowZero) ∧
    (B ≤ val b → pow a b = .error .exponentTooLarge) ∧
    (¬ (val a = 0 ∧ val b = 0) → val b < B → ∃ r, pow a b = .ok r ∧ val r = val a ^ val b ∧ r.WF) := by
  rw [pow_eq]
  refine ⟨fun h => if_pos h, fun hB => ?_, fun hn hfit => ?_⟩
  · have hb0 : val b ≠ 0 := (B_pos.trans_le hB).ne'
    rw [if_neg fun h => hb0 h.2, if_neg hb0, if_pos (Bool.eq_false_iff.mpr (mt (fitsU64_iff_lt b hb).mp (Nat.not_lt.mpr hB)))]
  · rw [if_neg hn]
    by_cases hb0 : val b = 0
    · rw [if_pos hb0, hb0]; exact ⟨small 1, rfl, rfl, one_WF⟩
    · have hf : b.fitsU64 = true := (fitsU64_iff_lt b hb).mpr hfit
      rw [if_neg hb0, if_neg (hf ▸ Bool.true_eq_false_eq_False)]
      exact ⟨_, rfl, by rw [powInternal_val, get0_of_fits b hf], powInternal_WF a _ ha⟩

end BigUint
end Fend
