/-
`format_nonrecurring` (terminating expansions and `n dp`). The state of its loop is a function of the digits `ds` produced so
far: the pending zeros are `tz ds`, the flag is `startedOf ds`, what has been written (reversed) is `outOf ds`. So an iteration
appends one long-division digit to `ds` or stops with `renderDigits ds`, which ties what C02 / C03 prove about the digit
sequence to the text.
-/
import FendModel.Model.NumLit
import FendModel.Proofs.Format

namespace Fend.Fmt

def tz (ds : List Nat) : Nat := (ds.reverse.takeWhile (· == 0)).length
def stripZ (ds : List Nat) : List Nat := (ds.reverse.dropWhile (· == 0)).reverse

theorem tz_snoc_zero (ds : List Nat) : tz (ds ++ [0]) = tz ds + 1 := by simp [tz]
theorem tz_snoc_pos (ds : List Nat) (d : Nat) (h : d ≠ 0) : tz (ds ++ [d]) = 0 := by simp [tz, h]
theorem stripZ_snoc_zero (ds : List Nat) : stripZ (ds ++ [0]) = stripZ ds := by simp [stripZ]
theorem stripZ_snoc_pos (ds : List Nat) (d : Nat) (h : d ≠ 0) : stripZ (ds ++ [d]) = ds ++ [d] := by simp [stripZ, h]

theorem strip_split (ds : List Nat) : ds = stripZ ds ++ List.replicate (tz ds) 0 := by
  have hz : (ds.reverse.takeWhile (· == 0)).reverse = List.replicate (tz ds) 0 :=
    List.eq_replicate_iff.2 ⟨List.length_reverse, fun x hx => by
      simpa using List.all_eq_true.1 List.all_takeWhile x (List.mem_reverse.1 hx)⟩
  rw [← hz, stripZ, ← List.reverse_append, List.takeWhile_append_dropWhile, List.reverse_reverse]

theorem mem_of_mem_stripZ {d : Nat} {ds : List Nat} (h : d ∈ stripZ ds) : d ∈ ds := by
  rw [strip_split ds]; exact List.mem_append_left _ h

theorem stripZ_ne_nil {b : Nat} {ds : List Nat} (h : valDigits b ds ≠ 0) : stripZ ds ≠ [] := by
  intro hnil
  rw [strip_split ds, hnil, List.nil_append, valDigits_zeros] at h
  exact h rfl

/-- the text for a digit sequence: trailing zeros are never printed; without a non-zero digit there is no separator at all -/
def renderDigits (intTxt : List Char) (sep : Char) (ds : List Nat) : List Char :=
  if stripZ ds = [] then intTxt else intTxt ++ sep :: (stripZ ds).map digitChar

def outOf (intTxt : List Char) (sep : Char) (ds : List Nat) : List Char :=
  if stripZ ds = [] then [] else (intTxt ++ sep :: (stripZ ds).map digitChar).reverse

def startedOf (ds : List Nat) : Bool := !(stripZ ds).isEmpty

theorem digitChar_zero : digitChar 0 = '0' := by decide

theorem map_replicate_zero (n : Nat) : (List.replicate n 0).map digitChar = List.replicate n '0' := by
  simp [digitChar_zero]

/-- the `out` of the loop's branch for a non-zero digit: the pending zeros are flushed, then the digit is written -/
theorem out_snoc_pos (intTxt : List Char) (sep : Char) (ds : List Nat) (d : Nat) (hd : d ≠ 0) :
    digitChar d :: (List.replicate (tz ds) '0' ++ (if startedOf ds then outOf intTxt sep ds else sep :: (intTxt.reverse ++ outOf intTxt sep ds))) =
      outOf intTxt sep (ds ++ [d]) := by
  -- whether or not anything has been written, the text in front of the new digit is `intTxt`, the separator, the shown digits
  have h0 : (if startedOf ds then outOf intTxt sep ds else sep :: (intTxt.reverse ++ outOf intTxt sep ds)) =
      (intTxt ++ sep :: (stripZ ds).map digitChar).reverse := by
    by_cases hs : stripZ ds = [] <;> simp [startedOf, outOf, hs]
  rw [h0, outOf, stripZ_snoc_pos ds d hd, if_neg (by simp)]
  conv_rhs => rw [strip_split ds]
  simp [digitChar_zero]

theorem nonrecLoop_stop {b den : Nat} {md : MaxDigits} {sep : Char} {intTxt : List Char} {neg intZero : Bool} {fuel cur i : Nat}
    {ds : List Nat} (hstop : cur = 0 ∨ md = .dp i) :
    nonrecLoop b den md sep intTxt neg intZero (fuel + 1) cur i (tz ds) (startedOf ds) (outOf intTxt sep ds) =
      (if startedOf ds then neg else neg && !intZero, renderDigits intTxt sep ds, cur == 0) := by
  have hs : (cur == 0 || md == MaxDigits.dp i || md == MaxDigits.ign i) = true := by
    rcases hstop with rfl | rfl <;> simp
  unfold nonrecLoop
  rw [if_pos hs]
  by_cases h : stripZ ds = [] <;> simp [startedOf, outOf, renderDigits, h]

theorem nonrecLoop_step {b den : Nat} {md : MaxDigits} (hmd : ∀ m, md ≠ .ign m) {sep : Char} {intTxt : List Char} {neg intZero : Bool}
    {fuel cur i : Nat} {ds : List Nat} (hcur : cur ≠ 0) (hdp : md ≠ .dp i) :
    nonrecLoop b den md sep intTxt neg intZero (fuel + 1) cur i (tz ds) (startedOf ds) (outOf intTxt sep ds) =
      nonrecLoop b den md sep intTxt neg intZero fuel (cur * b % den) (i + 1) (tz (ds ++ [cur * b / den]))
        (startedOf (ds ++ [cur * b / den])) (outOf intTxt sep (ds ++ [cur * b / den])) := by
  have hs : ¬ (cur == 0 || md == MaxDigits.dp i || md == MaxDigits.ign i) = true := by simp [hcur, hdp, hmd i]
  -- one iteration, on the left only: the call on the right has a variable for its fuel
  conv_lhs => unfold nonrecLoop
  simp only [if_neg hs, ← Nat.mod_eq_sub_div_mul]
  by_cases hd : cur * b / den = 0
  · rw [if_pos hd, hd, tz_snoc_zero, startedOf, startedOf, outOf, outOf, stripZ_snoc_zero]
    -- the index advances: `md` is no `ign` (`simp` finds `hmd` for the other arm of the `match`)
    simp
  · have hst : startedOf (ds ++ [cur * b / den]) = true := by simp [startedOf, stripZ_snoc_pos _ _ hd]
    rw [if_neg hd, tz_snoc_pos _ _ hd, out_snoc_pos intTxt sep _ _ hd, hst]

/-- `k` is the first index at which the remainder vanishes or the limit of places is reached; a value that prints as zero
loses its minus sign -/
theorem nonrec_text (b den r : Nat) (md : MaxDigits) (hmd : ∀ m, md ≠ .ign m) (sep : Char) (intTxt : List Char) (neg intZero : Bool)
    (k : Nat) (hbefore : ∀ j, j < k → remAt b den r j ≠ 0 ∧ md ≠ .dp j) (hstop : remAt b den r k = 0 ∨ md = .dp k)
    (fuel : Nat) (hfuel : k + 1 ≤ fuel) :
    nonrecLoop b den md sep intTxt neg intZero fuel r 0 0 false [] =
      (if startedOf (digitsFrom b den r k) then neg else neg && !intZero,
       renderDigits intTxt sep (digitsFrom b den r k), remAt b den r k == 0) := by
  have run : ∀ j, j ≤ k → ∀ f, nonrecLoop b den md sep intTxt neg intZero (f + j) r 0 0 false [] =
      nonrecLoop b den md sep intTxt neg intZero f (remAt b den r j) j (tz (digitsFrom b den r j))
        (startedOf (digitsFrom b den r j)) (outOf intTxt sep (digitsFrom b den r j)) := by
    intro j
    induction j with
    | zero => intro _ f; rfl
    | succ j ih =>
      intro hj f
      rw [← Nat.add_assoc, Nat.add_right_comm, ih (Nat.le_of_succ_le hj), nonrecLoop_step hmd (hbefore j hj).1 (hbefore j hj).2]
      rfl
  obtain ⟨f, rfl⟩ := Nat.exists_eq_add_of_le' hfuel
  rw [Nat.add_comm k 1, ← Nat.add_assoc, run k (Nat.le_refl k), nonrecLoop_stop hstop]

theorem stripZ_value (b : Nat) (hb : 2 ≤ b) (ds : List Nat) :
    ((valDigits b (stripZ ds) : Nat) : Rat) / (b : Rat) ^ (stripZ ds).length = ((valDigits b ds : Nat) : Rat) / (b : Rat) ^ ds.length := by
  have hb0 : (b : Rat) ≠ 0 := Nat.cast_ne_zero.mpr (Nat.zero_lt_of_lt hb).ne'
  conv_rhs => rw [strip_split ds]
  rw [valDigits_append, valDigits_zeros, Nat.add_zero, List.length_append, List.length_replicate, pow_add, Nat.cast_mul, Nat.cast_pow,
    mul_div_mul_right _ _ (pow_ne_zero _ hb0)]

theorem litValue_stripZ (b : Nat) (hb : 2 ≤ b) (i ds : List Nat) :
    NumLit.litValue ⟨b, i, some (stripZ ds), none, none⟩ = NumLit.litValue ⟨b, i, some ds, none, none⟩ := by
  simp only [NumLit.litValue, stripZ_value b hb ds]

end Fend.Fmt
