/-
`BigRat::pow` with an integer exponent (`IntExp e`: the denominator divides the numerator, reduced or not; `expN e` is
its magnitude, its sign is `e.neg`): the result is the integer power of the denoted rational, flagged exact; the only
errors are 0^0, an exponent beyond the machine word, and division by zero for 0^(negative).
-/
import FendModel.Proofs.BigRat
import FendModel.Proofs.BigUintPow

namespace Fend
namespace BigRat
open BigUint

def IntExp (e : BigRat) : Prop := val e.den ≠ 0 ∧ val e.den ∣ val e.num

def expN (e : BigRat) : Nat := val e.num / val e.den

theorem simplify_int (e : BigRat) (we : WFQ e) (he : IntExp e) :
    ∃ e', simplify e = .ok e' ∧ WFQ e' ∧ val e'.den = 1 ∧ val e'.num = expN e ∧ e'.neg = e.neg := by
  obtain ⟨r, hr, hrep, hn, hnum, hden⟩ := Rep.simplify (.of_wfq we he.1)
  rw [Nat.gcd_eq_right he.2] at hnum hden
  exact ⟨r, hr, hrep.wfq, hden.trans (Nat.div_self (Nat.pos_of_ne_zero he.1)), hnum, hn⟩

/-- the sign `pow` gives an integer power: negative for a negative base and an odd exponent -/
theorem sgn_pow (s : Bool) (k : Nat) : sgn (if !s || decide (k % 2 = 0) then false else true) = sgn s ^ k := by
  cases s
  · simp [sgn_false]
  · by_cases hk : k % 2 = 0
    · simp [hk, sgn_true, sgn_false, Even.neg_one_pow (Nat.even_iff.mpr hk)]
    · simp [hk, sgn_true, Odd.neg_one_pow (Nat.odd_iff.mpr (Nat.mod_two_ne_zero.mp hk))]

theorem Rep.pow_mk {x : BigRat} {q : Rat} (h : Rep x q) {k : Nat} {pn pd : BigUint} (hn : val pn = val x.num ^ k)
    (hd : val pd = val x.den ^ k) (wn : pn.WF) (wd : pd.WF) :
    Rep ⟨if !x.neg || decide (k % 2 = 0) then false else true, pn, pd⟩ (q ^ k) :=
  .mk (by rw [← h.val_eq, valQ_eq, valQ_eq, sgn_pow, hn, hd, Nat.cast_pow, Nat.cast_pow, mul_pow, div_pow]) wn wd
    (hd ▸ pow_ne_zero k h.den_ne)

/-- one level of `pow` on the simplified operands, for a non-negative exponent; `hg`: no root of a negative base is asked for -/
theorem pow_succ_unfold {x e x' e' : BigRat} (fuel : Nat) (hsx : simplify x = .ok x') (hse : simplify e = .ok e')
    (hne : e'.neg = false) (hw : e'.num.WF) (hg : (!numIsZero x' && x'.neg && !denIsOne e') = false) :
    pow (fuel + 1) x e = (BigUint.pow x'.num e'.num >>= fun pn => BigUint.pow x'.den e'.num >>= fun pd =>
      if denIsOne e' then .ok (⟨if !x'.neg || decide (val e'.num % 2 = 0) then false else true, pn, pd⟩, true)
      else rootN (pow fuel) ⟨if !x'.neg || decide (val e'.num % 2 = 0) then false else true, pn, pd⟩
        ⟨false, e'.den, small 1⟩) := by
  rw [pow]
  simp only [hsx, hse, hg, hne, isEven_val e'.num hw, ok_bind, Bool.false_eq_true, if_false]

/-- a non-negative integer exponent: the decisions of `BigUint.pow` on the numerator, read on the denoted values -/
theorem pow_nonneg_int (fuel : Nat) {x e : BigRat} {q : Rat} (hx : Rep x q) (we : WFQ e) (he : IntExp e)
    (hneg : e.neg = false) :
    if q = 0 ∧ expN e = 0 then pow (fuel + 1) x e = .error .zeroPowZero
    else if B ≤ expN e then pow (fuel + 1) x e = .error .exponentTooLarge
    else ∃ r, pow (fuel + 1) x e = .ok (r, true) ∧ Rep r (q ^ expN e) := by
  obtain ⟨x', hsx, hx', -⟩ := hx.simplify
  obtain ⟨e', hse, we', hd1, hnum, hne⟩ := simplify_int e we he
  have hden1 : denIsOne e' = true := by rw [denIsOne_eq e' we'.2, hd1]; rfl
  have hpow := pow_succ_unfold fuel hsx hse (hne.trans hneg) we'.1 (by rw [hden1, Bool.not_true, Bool.and_false])
  simp only [hden1, if_true, hnum] at hpow
  obtain ⟨p1, p2, p3⟩ := pow_spec x'.num e'.num hx'.num_wf we'.1
  obtain ⟨-, -, q3⟩ := pow_spec x'.den e'.num hx'.den_wf we'.1
  rw [hnum, hx'.num_eq_zero_iff] at p1 p3
  rw [hnum] at p2 q3
  by_cases h0 : q = 0 ∧ expN e = 0
  · rw [if_pos h0, hpow, p1 h0]; rfl
  rw [if_neg h0]
  by_cases hB : B ≤ expN e
  · rw [if_pos hB, hpow, p2 hB]; rfl
  rw [if_neg hB]
  obtain ⟨pn, hpn, hpnv, hpnw⟩ := p3 h0 (Nat.lt_of_not_le hB)
  obtain ⟨pd, hpd, hpdv, hpdw⟩ := q3 (fun h => hx'.den_ne h.1) (Nat.lt_of_not_le hB)
  exact ⟨_, by rw [hpow, hpn, hpd]; rfl, hx'.pow_mk hpnv hpdv hpnw hpdw⟩

/-- a negative integer exponent: one level further down the power for `|e|`, then its reciprocal -/
theorem pow_neg_int (fuel : Nat) {x e : BigRat} {q : Rat} (hx : Rep x q) (we : WFQ e) (he : IntExp e)
    (hneg : e.neg = true) :
    if q = 0 ∧ expN e = 0 then pow (fuel + 2) x e = .error .zeroPowZero
    else if B ≤ expN e then pow (fuel + 2) x e = .error .exponentTooLarge
    else if q = 0 then pow (fuel + 2) x e = .error .divideByZero
    else ∃ r, pow (fuel + 2) x e = .ok (r, true) ∧ Rep r (q ^ expN e)⁻¹ := by
  obtain ⟨x', hsx, hx', -⟩ := hx.simplify
  obtain ⟨e', hse, we', hd1, hnum, hne⟩ := simplify_int e we he
  have hpow : pow (fuel + 2) x e = (pow (fuel + 1) x' { e' with neg := false } >>= fun re =>
      BigRat.div (ofNat64 1) re.1 >>= fun q => .ok (q, re.2)) := by
    conv_lhs => unfold pow
    simp only [hsx, hse, denIsOne_eq e' we'.2, hd1, hne, hneg, ok_bind, decide_true, Bool.not_true, Bool.and_false,
      Bool.false_eq_true, if_false, if_true]
  have h := pow_nonneg_int fuel hx' (e := { e' with neg := false }) we' ⟨hd1 ▸ Nat.one_ne_zero, hd1 ▸ Nat.one_dvd _⟩ rfl
  rw [show expN { e' with neg := false } = expN e by rw [← hnum, expN, hd1, Nat.div_one]] at h
  rw [hpow]
  by_cases h0 : q = 0 ∧ expN e = 0
  · rw [if_pos h0] at h ⊢; rw [h]; rfl
  rw [if_neg h0] at h ⊢
  by_cases hB : B ≤ expN e
  · rw [if_pos hB] at h ⊢; rw [h]; rfl
  rw [if_neg hB] at h ⊢
  obtain ⟨r, hr, hrep⟩ := h
  rw [hr, ok_bind]
  by_cases hq : q = 0
  · rw [if_pos hq, (hrep.cast (by rw [hq, zero_pow fun hn => h0 ⟨hq, hn⟩])).div_zero]; rfl
  · rw [if_neg hq]
    obtain ⟨d, hd, hdr⟩ := rep_one.div_of_ne hrep (pow_ne_zero _ hq)
    exact ⟨d, by rw [hd]; rfl, hdr.cast (one_div _)⟩

end BigRat
end Fend
