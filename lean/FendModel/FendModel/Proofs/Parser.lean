/-
Round trip of the parser model.  Every level is stated as `Parses lv (Stop n)`: with enough fuel it reads its text back to the
tree and stops in front of the end of the text or of a symbol that the precedence table `prec` makes bind looser.  The levels
of shape `operand (op operand)*` share one induction step (`LeftLevel`, `Enters`).  The main result is `chain_parses`: every
`Chain 6` — a tree of the six ladder levels over operands of which only `BaseOK` is assumed (`ParserArith.atree_base` shows
that every sum is one) — reads back; `Props/C08` states `roundtrip` over these chains.
-/
import FendModel.Model.Parser

namespace Fend.Parser

/- `simp [run]` rewrites with the equation lemmas of `run`, one per arm of its `match`es.  Lean builds them on first use
(2.4M heartbeats); when that is inside a proof they are forgotten at its end and the next proof builds them again.  Asking
for them here, outside any proof, builds them once for this and every later module. -/
section
attribute [local simp] run
end

/-- `run` is not monotone in its fuel (a loop whose continuation runs out of fuel stops early and SUCCEEDS), so every
statement below is of the form "for all fuel from some bound on" -/
def Ev (p : Nat → Prop) : Prop := ∃ F, ∀ fuel, F ≤ fuel → p fuel

theorem Ev.mono {p q : Nat → Prop} (h : Ev p) (hpq : ∀ n, p n → q n) : Ev q :=
  h.imp fun _ hF n hn => hpq n (hF n hn)

theorem Ev.and {p q : Nat → Prop} (hp : Ev p) (hq : Ev q) : Ev fun n => p n ∧ q n := by
  obtain ⟨F, hF⟩ := hp
  obtain ⟨G, hG⟩ := hq
  exact ⟨max F G, fun n hn => ⟨hF n (Nat.max_le.1 hn).1, hG n (Nat.max_le.1 hn).2⟩⟩

theorem Ev.add {p : Nat → Prop} (h : Ev p) (d : Nat) : Ev fun n => p (n + d) :=
  h.imp fun _ hF _ hn => hF _ (Nat.le_add_right_of_le hn)

theorem Ev.of_add {q : Nat → Prop} {d : Nat} (h : Ev fun n => q (n + d)) : Ev q := by
  obtain ⟨F, hF⟩ := h
  exact ⟨F + d, fun n hn => Nat.sub_add_cancel (Nat.le_trans (Nat.le_add_left d F) hn) ▸ hF (n - d) (Nat.le_sub_of_add_le hn)⟩

def Parses (lv : Lv) (P : List Tok → Prop) (toks : List Tok) (e : Expr) : Prop :=
  Ev fun fuel => ∀ rest, P rest → run fuel lv (toks ++ rest) = some (e, rest)

theorem Parses.step {lv lv' : Lv} {P Q : List Tok → Prop} {toks : List Tok} {e e' : Expr} (h : Parses lv' Q toks e)
    (step : ∀ fuel rest, P rest → (Q rest → run fuel lv' (toks ++ rest) = some (e, rest)) →
      run (fuel + 1) lv (toks ++ rest) = some (e', rest)) : Parses lv P toks e' :=
  Ev.of_add (d := 1) (h.mono fun fuel hf rest hr => step fuel rest hr (hf rest))

theorem Parses.weaken {lv : Lv} {P Q : List Tok → Prop} {toks : List Tok} {e : Expr} (h : Parses lv P toks e)
    (hQP : ∀ rest, Q rest → P rest) : Parses lv Q toks e :=
  h.mono fun _ hf rest hr => hf rest (hQP rest hr)

/-- every level decides by one token of look-ahead whether to go on, and the round trip only ever puts an operator or a
closing symbol there -/
def After (S : Sym → Prop) (rest : List Tok) : Prop := rest = [] ∨ ∃ s r, rest = .sym s :: r ∧ S s

theorem After.mono {S T : Sym → Prop} {rest : List Tok} (h : After S rest) (hST : ∀ s, S s → T s) : After T rest :=
  h.imp_right fun ⟨s, r, e, hs⟩ => ⟨s, r, e, hST s hs⟩

/-- for the levels that branch on the first token (`;`, `)`, a unary sign) -/
def StartsWith (P : Tok → Prop) (toks : List Tok) : Prop := ∃ t0 ts, toks = t0 :: ts ∧ P t0

theorem StartsWith.append {P : Tok → Prop} {xs : List Tok} (h : StartsWith P xs) (ys : List Tok) : StartsWith P (xs ++ ys) := by
  obtain ⟨t0, ts, rfl, h⟩ := h
  exact ⟨t0, ts ++ ys, rfl, h⟩

theorem StartsWith.mono {P Q : Tok → Prop} {xs : List Tok} (h : StartsWith P xs) (hPQ : ∀ t, P t → Q t) : StartsWith Q xs := by
  obtain ⟨t0, ts, e, h⟩ := h
  exact ⟨t0, ts, e, hPQ t0 h⟩

/-- the manual's precedence table as one number per symbol: the level at which the symbol continues an expression,
tightest first (`(` continues a product, by juxtaposition) -/
def prec : Sym → Nat
  | .fact => 1 | .pow => 2 | .mul | .div | .mod | .openP => 3 | .add | .sub | .conv => 4
  | .shl | .shr => 5 | .bitAnd => 6 | .bitXor => 7 | .bitOr => 8 | .comb => 9 | .perm => 10
  | .fn_ => 11 | .eq2 | .ne => 12 | .eq => 13 | .semi => 14 | .closeP => 15

def Stop (n : Nat) : List Tok → Prop := After (n < prec ·)

theorem Stop.le {n m : Nat} {rest : List Tok} (h : Stop m rest) (hnm : n ≤ m) : Stop n rest :=
  After.mono h fun _ hs => Nat.lt_of_le_of_lt hnm hs

theorem Stop.sym {n : Nat} {s : Sym} (h : n < prec s) (r : List Tok) : Stop n (.sym s :: r) := .inr ⟨s, r, rfl, h⟩

theorem Stop.no_symHead {n : Nat} {rest : List Tok} (h : Stop n rest) {s : Sym} (hs : prec s ≤ n) : symHead rest s = none := by
  rcases h with rfl | ⟨s', r, rfl, hs'⟩
  · rfl
  · exact if_neg fun (e : s' = s) => Nat.not_lt.2 hs (e ▸ hs')

theorem Stop.notMem {n : Nat} {rest : List Tok} (h : Stop n rest) {L : List Sym} (hL : ∀ s ∈ L, prec s ≤ n) :
    After (· ∉ L) rest :=
  After.mono h fun s hs hm => Nat.not_lt.2 (hL s hm) hs

/-- a level `operand (op operand)*` whose operands are at `level` of the table.  The six `leftLoop` levels, `* / mod`, `+ -`
and (with a postfix operator and no binary one) `!` are of this shape. -/
structure LeftLevel where
  entry : Lv
  next : Lv
  loop : Expr → Lv
  ops : List (Sym × Bop)
  level : Nat
  enter : ∀ {fuel input r rest}, run fuel next input = some (r, rest) → run (fuel + 1) entry input = run fuel (loop r) rest
  step : ∀ {fuel res s op input b rest}, (s, op) ∈ ops → run fuel next input = some (b, rest) →
    run (fuel + 1) (loop res) (.sym s :: input) = run fuel (loop (.bop op res b)) rest
  ops_prec : ∀ p ∈ ops, level < prec p.1
  stop : ∀ {fuel res rest}, Stop (level + 1) rest → run (fuel + 1) (loop res) rest = some (res, rest)

/-- what is known of a left operand: the loop holds `e` and may still go on, so `t` is whatever may follow an OPERAND (in
particular another operator of this level), not what may follow the level.  `d` is the number of steps from the entry to
that state of the loop: one for the first operand and one more for every round. -/
def Enters (L : LeftLevel) (toks : List Tok) (e : Expr) : Prop :=
  ∃ d, Ev fun fuel => ∀ t, Stop L.level t → run (fuel + d) L.entry (toks ++ t) = run fuel (L.loop e) t

section
variable {L : LeftLevel}

theorem Enters.one {toks : List Tok} {e : Expr} (h : Parses L.next (Stop L.level) toks e) : Enters L toks e :=
  ⟨1, h.mono fun _ hf t ht => L.enter (hf t ht)⟩

/-- one more round of the loop: the text `more` takes it from `e` to `e'` -/
theorem Enters.round {toks more : List Tok} {e e' : Expr} (h : Enters L toks e) (hmore : ∀ t, Stop L.level (more ++ t))
    (round : Ev fun fuel => ∀ t, Stop L.level t → run (fuel + 1) (L.loop e) (more ++ t) = run fuel (L.loop e') t) :
    Enters L (toks ++ more) e' := by
  obtain ⟨d, h⟩ := h
  refine ⟨d + 1, ((h.add 1).and round).mono fun fuel ⟨h1, h2⟩ t ht => ?_⟩
  rw [List.append_assoc, show fuel + (d + 1) = fuel + 1 + d by omega, h1 _ (hmore t), h2 t ht]

theorem Enters.snoc {ctoks btoks : List Tok} {ce be : Expr} {s : Sym} {op : Bop} (hc : Enters L ctoks ce)
    (hop : (s, op) ∈ L.ops) (hb : Parses L.next (Stop L.level) btoks be) :
    Enters L (ctoks ++ .sym s :: btoks) (.bop op ce be) :=
  hc.round (fun _ => .sym (L.ops_prec _ hop) _) (hb.mono fun _ h t ht => L.step hop (h t ht))

theorem Enters.parses {toks : List Tok} {e : Expr} (h : Enters L toks e) : Parses L.entry (Stop (L.level + 1)) toks e := by
  obtain ⟨d, h⟩ := h
  refine Ev.of_add (d := d) (Ev.of_add (d := 1) ((h.add 1).mono fun fuel hf rest hr => ?_))
  rw [hf rest (hr.le (Nat.le_succ _))]
  exact L.stop hr

end

theorem leftLoop_step {go : Lv → List Tok → Res} {next : Lv} {loop : Expr → Lv} {ops : List (Sym × Bop)} {res b : Expr}
    {s : Sym} {op : Bop} {input rest : List Tok} (hf : ops.find? (fun p => p.1 = s) = some (s, op))
    (hb : go next input = some (b, rest)) :
    leftLoop go next loop ops res (.sym s :: input) = go (loop (.bop op res b)) rest := by
  simp [leftLoop, hf, hb]

theorem leftLoop_stop {go : Lv → List Tok → Res} {next : Lv} {loop : Expr → Lv} {ops : List (Sym × Bop)} {res : Expr}
    {rest : List Tok} (h : After (fun s => ∀ p ∈ ops, p.1 ≠ s) rest) : leftLoop go next loop ops res rest = some (res, rest) := by
  rcases h with rfl | ⟨s, r, rfl, hs⟩
  · rfl
  · have hf : ops.find? (fun p => decide (p.1 = s)) = none := List.find?_eq_none.2 fun p hp => by simpa using hs p hp
    simp [leftLoop, hf]

/- Ladder index `k` (1 = shifts … 6 = permutation, 0 = the additive level below): the operators `entryLv k` reads have `prec`
`k + 4`.  `ladder k` below is the level `entryLv (k + 1)` over operands `entryLv k`, and `Chain (k + 1)` are its trees. -/
def entryLv : Nat → Lv
  | 0 => .additive | 1 => .shifts | 2 => .bitAnd | 3 => .bitXor | 4 => .bitOr | 5 => .combination | _ => .permutation

def loopLv : Nat → Expr → Lv
  | 1 => .shiftLoop | 2 => .andLoop | 3 => .xorLoop | 4 => .orLoop | 5 => .combLoop | _ => .permLoop

def opsLv : Nat → List (Sym × Bop)
  | 1 => [(.shl, .shl), (.shr, .shr)] | 2 => [(.bitAnd, .bitAnd)] | 3 => [(.bitXor, .bitXor)] | 4 => [(.bitOr, .bitOr)]
  | 5 => [(.comb, .comb)] | 6 => [(.perm, .perm)] | _ => []

theorem run_entry (fuel : Nat) (input : List Tok) : ∀ k, k < 6 → run (fuel + 1) (entryLv (k + 1)) input =
    match run fuel (entryLv k) input with
    | some (r, rest) => run fuel (loopLv (k + 1) r) rest
    | none => none
  | 0, _ | 1, _ | 2, _ | 3, _ | 4, _ | 5, _ => rfl

theorem run_loop (fuel : Nat) (res : Expr) (input : List Tok) : ∀ k, k < 6 → run (fuel + 1) (loopLv (k + 1) res) input =
    leftLoop (run fuel) (entryLv k) (loopLv (k + 1)) (opsLv (k + 1)) res input
  | 0, _ | 1, _ | 2, _ | 3, _ | 4, _ | 5, _ => rfl

/-- "may follow level `k` of the ladder" as the C08 statements spell it (through `BaseOK`): an explicit list.  The proofs use
`Stop (k + 4)`; `follow_iff` is the only bridge. -/
def followSym (k : Nat) (s : Sym) : Bool :=
  s == .closeP || s == .eq2 || s == .ne || s == .eq || s == .semi || s == .fn_ ||
  (k < 1 && (s == .shl || s == .shr)) || (k < 2 && s == .bitAnd) || (k < 3 && s == .bitXor) ||
  (k < 4 && s == .bitOr) || (k < 5 && s == .comb) || (k < 6 && s == .perm)

def Follow (k : Nat) (rest : List Tok) : Prop := rest = [] ∨ ∃ s r, rest = .sym s :: r ∧ followSym k s = true

theorem followSym_iff (s : Sym) : ∀ k, k < 7 → (followSym k s = true ↔ k + 4 < prec s) := by
  cases s <;> decide +kernel

theorem follow_iff {k : Nat} (hk : k < 7) {rest : List Tok} : Follow k rest ↔ Stop (k + 4) rest :=
  ⟨fun h => After.mono h fun s => (followSym_iff s k hk).1, fun h => After.mono h fun s => (followSym_iff s k hk).2⟩

theorem mem_opsLv : ∀ k, k < 6 → ∀ p ∈ opsLv (k + 1), prec p.1 = k + 5 ∧ (opsLv (k + 1)).find? (fun q => q.1 = p.1) = some p := by
  decide

def ladder (k : Nat) (hk : k < 6) : LeftLevel where
  entry := entryLv (k + 1)
  next := entryLv k
  loop := loopLv (k + 1)
  ops := opsLv (k + 1)
  level := k + 4
  enter h := by rw [run_entry _ _ k hk, h]
  step hop hb := by rw [run_loop _ _ _ k hk]; exact leftLoop_step (mem_opsLv k hk _ hop).2 hb
  ops_prec p hp := by have := (mem_opsLv k hk p hp).1; omega
  stop h := by
    rw [run_loop _ _ _ k hk]
    refine leftLoop_stop (After.mono h fun s hs p hp e => ?_)
    subst e
    have := (mem_opsLv k hk p hp).1
    omega

/-- `BaseOK`, `Follow` and the `start` field of `Chain.base` spell out, in the words the statements of `Props/C08` are read in,
what the proofs write `Parses .additive (Follow 0) toks e`, `After (followSym k · = true)` and `StartsWith Starts toks`; each
unfolds to the other, and the proofs pass one for the other. -/
def BaseOK (e : Expr) (toks : List Tok) : Prop :=
  ∃ F, ∀ fuel, F ≤ fuel → ∀ rest, Follow 0 rest → run fuel .additive (toks ++ rest) = some (e, rest)

def Starts (t0 : Tok) : Prop := (∃ n, t0 = .num n) ∨ t0 = .sym .openP ∨ t0 = .sym .sub

inductive Chain : Nat → Type where
  | base (e : Expr) (toks : List Tok) (start : ∃ t0 ts, toks = t0 :: ts ∧ Starts t0) (ok : BaseOK e toks) : Chain 0
  | up {k : Nat} (c : Chain k) : Chain (k + 1)
  | snoc {k : Nat} (c : Chain (k + 1)) (s : Sym) (op : Bop) (h : (s, op) ∈ opsLv (k + 1)) (b : Chain k) : Chain (k + 1)

/-- the tree the precedence table prescribes for the text `toToks`, which has no parentheses of its own -/
def Chain.toExpr : {k : Nat} → Chain k → Expr
  | _, .base e _ _ _ => e
  | _, .up c => c.toExpr
  | _, .snoc c _ op _ b => .bop op c.toExpr b.toExpr

def Chain.toToks : {k : Nat} → Chain k → List Tok
  | _, .base _ toks _ _ => toks
  | _, .up c => c.toToks
  | _, .snoc c s _ _ b => c.toToks ++ [.sym s] ++ b.toToks

/-- what the induction over a chain carries: at level 0 the operand parses; above, the chain ENTERS its level, so that
another operator of the level may follow -/
def Good : {k : Nat} → k ≤ 6 → Chain k → Prop
  | 0, _, c => Parses .additive (Stop 4) c.toToks c.toExpr
  | k + 1, hk, c => Enters (ladder k hk) c.toToks c.toExpr

theorem Good.parses : {k : Nat} → {hk : k ≤ 6} → {c : Chain k} → Good hk c → Parses (entryLv k) (Stop (k + 4)) c.toToks c.toExpr
  | 0, _, _, h => h
  | _ + 1, _, _, h => Enters.parses h

theorem chain_good : {k : Nat} → (hk : k ≤ 6) → (c : Chain k) → Good hk c
  | 0, _, .base _ _ _ ok => Parses.weaken ok fun _ => (follow_iff (by decide)).2
  | _ + 1, hk, .up c => .one (chain_good (Nat.le_of_succ_le hk) c).parses
  | _ + 1, hk, .snoc c s op h b => by
    rw [Good, Chain.toToks, List.append_assoc]
    exact (chain_good hk c).snoc h (chain_good (Nat.le_of_succ_le hk) b).parses

theorem chain_parses (c : Chain 6) : Parses .permutation (Stop 10) c.toToks c.toExpr :=
  (chain_good (Nat.le_refl 6) c).parses

theorem chain_starts : {k : Nat} → (c : Chain k) → StartsWith Starts c.toToks
  | _, .base _ _ start _ => start
  | _, .up c => chain_starts c
  | _, .snoc c _ _ _ b => ((chain_starts c).append _).append b.toToks

end Fend.Parser
