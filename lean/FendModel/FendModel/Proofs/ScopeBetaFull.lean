/-
β in full, `(\x. b) r` against `b[x := (r)]` for an arbitrary body `b` and argument `r` under hygiene (no binder inside `b`
re-binds `x` or a name occurring in `r`), as a three-mode simulation between scope pairs:
  same  — equal shape, bindings pairwise related;
  shift — the left scope additionally carries `x ↦ r` (captured with the scope below it) under binders foreign to `r`;
  weak  — the right scope additionally carries bindings of names that do not occur in `r`.
Weak is what a use of `x` leads to: the left side evaluates `r` in the scope captured at the call, the right side evaluates
`(r)` where it stands, below every binder passed since; hygiene keeps those binders foreign to `r`.
A mode also relates the two sides of ONE binding, whatever the mode of the chain it hangs on: its argument expressions (`sub`)
and the scopes captured with them.  The three `cons_*` constructors of `SRel` are that one case, a binding in a mode of its own.
-/
import FendModel.Proofs.ScopeEval

namespace Fend.Scope

inductive Mode | same | shift | weak
deriving DecidableEq

section
variable (x : String) (r : Expr)

def Hyg : Expr → Bool
  | .num _ => true
  | .unitLit => true
  | .var _ => true
  | .parens e => Hyg e
  | .neg e => Hyg e
  | .bop _ a b => Hyg a && Hyg b
  | .lam y b => y != x && !(namesOf r).contains y && Hyg b
  | .app f a => Hyg f && Hyg a
  | .assign _ e => Hyg e
  | .seq a b => Hyg a && Hyg b

def NamesIn (e : Expr) : Bool := (namesOf e).all fun y => (namesOf r).contains y

/-- what the right side has where the left has `e`: `(r)` written for `x` in shift mode, `e` itself otherwise -/
def sub (m : Mode) (e : Expr) : Expr := if m = .shift then subst x r e else e

/-- what the simulation needs of an expression it meets in mode `m`: hygiene where it substitutes, only names of `r` where `r`
is evaluated below foreign binders -/
def Pre (m : Mode) (e : Expr) : Prop :=
  match m with
  | .same => True
  | .shift => Hyg x r e = true
  | .weak => NamesIn r e = true

/-- the scopes of the two runs, in the mode of the chain; each binding in a mode of its own -/
inductive SRel : Mode → Scope → Scope → Prop
  | nil_same : SRel .same .nil .nil
  | nil_weak : SRel .weak .nil .nil
  | cons_same (m : Mode) (p : String) (a : Expr) (C C' S T : Scope) :
      (m = .shift → p ≠ x ∧ (namesOf r).contains p = false) → SRel .same C C' → SRel m S T →
      SRel m (.cons p a C S) (.cons p a C' T)
  | cons_shift (m : Mode) (p : String) (a : Expr) (C C' S T : Scope) :
      (m = .shift → p ≠ x ∧ (namesOf r).contains p = false) → Hyg x r a = true → SRel .shift C C' → SRel m S T →
      SRel m (.cons p a C S) (.cons p (subst x r a) C' T)
  | cons_weak (m : Mode) (p : String) (a : Expr) (C C' S T : Scope) :
      (m = .shift → p ≠ x ∧ (namesOf r).contains p = false) → NamesIn r a = true → SRel .weak C C' → SRel m S T →
      SRel m (.cons p a C S) (.cons p a C' T)
  | base (S T : Scope) : SRel .same S T → SRel .shift (.cons x r S S) T
  | skip (q : String) (a : Expr) (C S T : Scope) : (namesOf r).contains q = false → SRel .weak S T → SRel .weak S (.cons q a C T)

/-- the values of the two runs: equal numbers and units; closures whose bodies and captured scopes are related in some mode -/
def VR : Value → Value → Prop
  | .num q, w => w = .num q
  | .unit, w => w = .unit
  | .fn p body C, w => ∃ m' C', w = .fn p (sub x r m' body) C' ∧ Pre x r m' body ∧
      (m' = .shift → p ≠ x ∧ (namesOf r).contains p = false) ∧ SRel x r m' C C'

/-- the variable tables of the two runs: equal names, `VR`-related values -/
def VsR : Vars → Vars → Prop
  | [], w => w = []
  | (k, v) :: t, w => ∃ v' t', w = (k, v') :: t' ∧ VR x r v v' ∧ VsR t t'

/-- the results of the two runs: the same error or `VR`-related values, and `VsR`-related variables -/
def ResR (a b : Except Err Value × Vars) : Prop :=
  VsR x r a.2 b.2 ∧
  match a.1, b.1 with
  | .error e, .error e' => e = e'
  | .ok v, .ok v' => VR x r v v'
  | _, _ => False

variable {x r}

theorem namesIn_app (a b : List String) (N : List String) :
    ((a ++ b).all fun y => N.contains y) = true ↔ (a.all fun y => N.contains y) = true ∧ (b.all fun y => N.contains y) = true := by
  rw [List.all_append, Bool.and_eq_true]

theorem Pre.arg {m : Mode} {t u : Expr} (h : Pre x r m u) (a : Arg t u) : Pre x r m t := by
  cases m with
  | same => trivial
  | shift =>
    cases a with
    | parens | neg | assign => exact h
    | bop₁ | app₁ | seq₁ => exact (Bool.and_eq_true_iff.1 h).1
    | bop₂ | app₂ | seq₂ => exact (Bool.and_eq_true_iff.1 h).2
  | weak => exact List.all_eq_true.2 fun y hy => List.all_eq_true.1 h y (a.namesOf hy)

theorem Pre.lam {m : Mode} {y : String} {b : Expr} (h : Pre x r m (.lam y b)) :
    Pre x r m b ∧ (m = .shift → y ≠ x ∧ (namesOf r).contains y = false) := by
  cases m with
  | same => exact ⟨trivial, fun h => by cases h⟩
  | weak => exact ⟨(Bool.and_eq_true_iff.1 h).2, fun h => by cases h⟩
  | shift =>
    obtain ⟨hg, hb⟩ := Bool.and_eq_true_iff.1 h
    exact ⟨hb, fun _ => (Bool.and_eq_true_iff.1 hg).imp bne_iff_ne.1 (Bool.not_eq_true' _).mp⟩

theorem sub_mapArgs {m : Mode} (t : Expr) (h : m = .shift → ¬t.IsNamed x) : sub x r m t = t.mapArgs (sub x r m) :=
  ite_subst r t h

theorem flat_VR : Flat (VR x r) :=
  ⟨.rfl, .rfl, fun ⟨_, _, h, _⟩ => ⟨_, _, _, h⟩⟩

theorem VsR.lookup {vs vs' : Vars} (h : VsR x r vs vs') (y : String) : LookupR (VR x r) vs vs' y := by
  fun_induction Scope.lookup vs y generalizing vs' with
  | case1 => cases h; exact .inl ⟨rfl, rfl⟩
  | case2 v t => obtain ⟨v', t', rfl, hv, _⟩ := h; exact .inr ⟨v, v', if_pos rfl, if_pos rfl, hv⟩
  | case3 k v t hk ih =>
    obtain ⟨v', t', rfl, _, ht⟩ := h
    simpa only [LookupR, Scope.lookup, if_neg hk] using ih ht

theorem VsR.setVar {vs vs' : Vars} (h : VsR x r vs vs') (y : String) {v v' : Value} (hv : VR x r v v') :
    VsR x r (setVar vs y v) (setVar vs' y v') := by
  fun_induction Scope.setVar vs y v generalizing vs' with
  | case1 => cases h; exact ⟨v', [], rfl, hv, rfl⟩
  | case2 w t => obtain ⟨w', t', rfl, _, ht⟩ := h; exact ⟨v', t', if_pos rfl, hv, ht⟩
  | case3 k w t hk ih => obtain ⟨w', t', rfl, hwv, ht⟩ := h; exact ⟨w', _, if_neg hk, hwv, ih ht⟩

/-- entering a closure: the new binding (argument `a`, lazily bound with its call-site scopes `S`/`T` in mode `m`) on top of
the closure's scopes `C`/`C'` in mode `m'` -/
theorem SRel.push {m m' : Mode} {p : String} {a : Expr} {S T C C' : Scope}
    (hg : m' = .shift → p ≠ x ∧ (namesOf r).contains p = false) (hp : Pre x r m a) (hST : SRel x r m S T) (hC : SRel x r m' C C') :
    SRel x r m' (.cons p a S C) (.cons p (sub x r m a) T C') := by
  cases m with
  | same => exact .cons_same m' p a S T C C' hg hST hC
  | shift => exact .cons_shift m' p a S T C C' hg hp hST hC
  | weak => exact .cons_weak m' p a S T C C' hg hp hST hC

/-- induction on `SRel` with the three `cons` constructors as the one case they are (`SRel.push` builds it) -/
theorem SRel.induct {motive : ∀ m S T, SRel x r m S T → Prop} (nil_same : motive .same .nil .nil .nil_same)
    (nil_weak : motive .weak .nil .nil .nil_weak)
    (cons : ∀ m m' p a C C' S T (hg : m = .shift → p ≠ x ∧ (namesOf r).contains p = false) (hp : Pre x r m' a)
      (hC : SRel x r m' C C') (hS : SRel x r m S T), motive m S T hS → motive m _ _ (.push hg hp hC hS))
    (base : ∀ S T (hS : SRel x r .same S T), motive .same S T hS → motive .shift _ T (.base S T hS))
    (skip : ∀ q a C S T (hq : (namesOf r).contains q = false) (hS : SRel x r .weak S T),
      motive .weak S T hS → motive .weak S _ (.skip q a C S T hq hS))
    {m : Mode} {S T : Scope} (h : SRel x r m S T) : motive m S T h := by
  induction h with
  | nil_same => exact nil_same
  | nil_weak => exact nil_weak
  | cons_same m p a C C' S T hg hC hS _ ihS => exact cons m .same p a C C' S T hg trivial hC hS ihS
  | cons_shift m p a C C' S T hg hh hC hS _ ihS => exact cons m .shift p a C C' S T hg hh hC hS ihS
  | cons_weak m p a C C' S T hg hn hC hS _ ihS => exact cons m .weak p a C C' S T hg hn hC hS ihS
  | base S T hs ih => exact base S T hs ih
  | skip q a C S T hq hs ih => exact skip q a C S T hq hs ih

theorem SRel.to_weak {S T : Scope} (h : SRel x r .same S T) : SRel x r .weak S T := by
  generalize hm : Mode.same = m at h
  induction h using SRel.induct with
  | nil_same => exact .nil_weak
  | nil_weak => exact .nil_weak
  | cons m m' p a C C' S T _ hp hC _ ihS => exact .push (fun h => by cases h) hp hC (ihS hm)
  | base => cases hm
  | skip => cases hm

theorem SRel.find {m : Mode} {S T : Scope} (h : SRel x r m S T) (y : String)
    (hy : ¬(m = .shift ∧ y = x)) (hp : Pre x r m (.var y)) :
    FindR (fun a C a' C' => ∃ m', a' = sub x r m' a ∧ Pre x r m' a ∧ SRel x r m' C C') S T y := by
  induction h using SRel.induct with
  | nil_same => exact .inl ⟨rfl, rfl⟩
  | nil_weak => exact .inl ⟨rfl, rfl⟩
  | cons m m' p a C C' S T _ hp' hC _ ihS => exact (ihS hy hp).cons p ⟨m', rfl, hp', hC⟩
  | base S T _ ih =>
    rw [FindR, Scope.find_cons_ne fun h => hy ⟨rfl, h.symm⟩]; exact ih (fun h => by cases h.1) trivial
  | skip q a C S T hq _ ih =>
    have hne : q ≠ y := fun h => by rw [h, List.all_eq_true.1 hp y (.head _)] at hq; cases hq
    rw [FindR, Scope.find_cons_ne hne]; exact ih hy hp

theorem SRel.find_x {S T : Scope} (h : SRel x r .shift S T) : ∃ S0, S.find x = some (r, S0) ∧ SRel x r .weak S0 T := by
  generalize hm : Mode.shift = m at h
  induction h using SRel.induct with
  | nil_same => cases hm
  | nil_weak => cases hm
  | cons m m' p a C C' S T hg _ _ _ ihS =>
    obtain ⟨S0, hf, hw⟩ := ihS hm
    exact ⟨S0, by rwa [Scope.find_cons_ne (hg hm.symm).1], .skip p _ C' S0 T (hg hm.symm).2 hw⟩
  | base S T hs _ => exact ⟨S, Scope.find_cons_self .., hs.to_weak⟩
  | skip => cases hm

theorem sim (bi : List (String × Rat)) :
    ∀ (fuel : Nat) (e : Expr) (m : Mode) (S T : Scope) (vs vs' : Vars),
      SRel x r m S T → Pre x r m e → VsR x r vs vs' →
      Rel (fun _ => False) (VR x r) (VsR x r) (eval bi fuel e S vs) (eval bi fuel (sub x r m e) T vs') := by
  intro fuel
  induction fuel with
  | zero => intro e m S T vs vs' _ _ hvs; exact .err hvs
  | succ f ih =>
    intro e m S T vs vs' hrel hpre hvs
    cases e with
    | var y =>
      by_cases hyx : m = .shift ∧ y = x
      · obtain ⟨rfl, rfl⟩ := hyx
        obtain ⟨S0, hf, hw⟩ := hrel.find_x
        rw [sub, if_pos rfl, subst_var_self, eval_var_param _ _ _ _ hf, eval_parens]
        exact ih r .weak S0 T vs vs' hw (by simp [Pre, NamesIn]) hvs
      · rw [sub_mapArgs (.var y) (not_and.1 hyx)]
        refine .var flat_VR (hrel.find y hyx hpre) (hvs.lookup y) hvs ?_
        rintro a C _ C' ⟨m', rfl, hp', hC⟩
        exact ih a m' C C' vs vs' hC hp' hvs
    | lam y b =>
      obtain ⟨hb, hg⟩ := hpre.lam
      rw [sub_mapArgs (.lam y b) fun h => (hg h).1]
      exact .ok ⟨m, T, rfl, hb, hg, hrel⟩ hvs
    | app g a =>
      rw [sub_mapArgs _ fun _ => id]
      refine .app flat_VR (ih g m S T vs vs' hrel (hpre.arg .app₁) hvs) (fun hw => ih a m S T _ _ hrel (hpre.arg .app₂) hw) ?_
      rintro p b C p' b' C' w w' ⟨m', C'', h, hbp, hbg, hC⟩ hw
      cases h
      exact ih b m' _ _ w w' (.push hbg (hpre.arg .app₂) hrel hC) hbp hw
    | assign y t =>
      rw [sub_mapArgs _ fun _ => id]
      exact .assign (ih t m S T vs vs' hrel (hpre.arg .assign) hvs) fun hv hw => hw.setVar y hv
    | _ => exact .connective flat_VR rfl (sub_mapArgs _ fun _ => id) (fun ha _ _ hw => ih _ m S T _ _ hrel (hpre.arg ha) hw) hvs

theorem SRel.refl (S : Scope) : SRel x r .same S S := by
  induction S with
  | nil => exact .nil_same
  | cons p a C S ihC ihS => exact .cons_same .same p a C C S S (fun h => Mode.noConfusion h) ihC ihS

theorem VR.refl (v : Value) : VR x r v v := by
  cases v with
  | num q => rfl
  | unit => rfl
  | fn p body C => exact ⟨.same, C, rfl, trivial, fun h => Mode.noConfusion h, .refl C⟩

theorem VsR.refl (vs : Vars) : VsR x r vs vs := by
  induction vs with
  | nil => rfl
  | cons pr t ih => obtain ⟨k, v⟩ := pr; exact ⟨v, t, rfl, .refl v, ih⟩

theorem beta_rel (bi : List (String × Rat)) (b : Expr) (hb : Hyg x r b = true) (fuel : Nat) (sc : Scope) (vs : Vars) :
    Rel (fun _ => False) (VR x r) (VsR x r)
      (eval bi (fuel + 2) (.app (.lam x b) r) sc vs) (eval bi (fuel + 1) (subst x r b) sc vs) := by
  rw [eval_app, eval_lam]
  exact sim bi (fuel + 1) b .shift _ _ vs vs (.base sc sc (.refl sc)) hb (.refl vs)

theorem ResR.of_rel {a b : Except Err Value × Vars} (h : Rel (fun _ => False) (VR x r) (VsR x r) a b) : ResR x r a b := by
  cases h with
  | esc h => exact h.elim
  | err hw => exact ⟨hw, rfl⟩
  | ok hv hw => exact ⟨hw, hv⟩

end
end Fend.Scope
