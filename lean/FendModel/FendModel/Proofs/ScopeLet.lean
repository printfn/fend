/-
Referential transparency of a variable bound to a closed arithmetic expression (C09, first sentence): `x = e; b` computes
what `b[x := (e)]` computes, here for bodies that only read variables (`let_plain`; arbitrary bodies: ScopeLetFull).
Both rest on `eval_closed`: such an `e` evaluates to `ceval e` wherever it stands, in at most `depth e` steps; so `x = e; b` goes on
as `b` with `x` set to that value (`eval_let`).
-/
import FendModel.Proofs.ScopeEval

namespace Fend.Scope

def closedArith : Expr → Bool
  | .num _ => true
  | .parens e => closedArith e
  | .neg e => closedArith e
  | .bop _ a b => closedArith a && closedArith b
  | _ => false

def ceval : Expr → Except Err Rat
  | .num q => .ok q
  | .parens e => ceval e
  | .neg e => match ceval e with | .ok q => .ok (-q) | .error er => .error er
  | .bop op a b =>
    match ceval a with
    | .error er => .error er
    | .ok x => match ceval b with
      | .error er => .error er
      | .ok y => arith op x y
  | _ => .error .badOperands

def depth : Expr → Nat
  | .parens e => depth e + 1
  | .neg e => depth e + 1
  | .bop _ a b => max (depth a) (depth b) + 1
  | .lam _ b => depth b + 1
  | .app f a => max (depth f) (depth a) + 1
  | .assign _ e => depth e + 1
  | .seq a b => max (depth a) (depth b) + 1
  | _ => 1

theorem eval_closed (bi : List (String × Rat)) :
    ∀ fuel e, closedArith e = true → depth e ≤ fuel → ∀ sc vs, eval bi fuel e sc vs = ((ceval e).map .num, vs) := by
  intro fuel
  induction fuel with
  | zero => intro e _ hf; cases e <;> cases hf
  | succ f ih =>
    intro e he hf sc vs
    cases e with
    | num q => rfl
    | parens t => exact ih t he (Nat.le_of_succ_le_succ hf) sc vs
    | neg t =>
      rw [eval_neg, ih t he (Nat.le_of_succ_le_succ hf) sc vs, ceval]
      cases ceval t <;> rfl
    | bop op a b =>
      have he := Bool.and_eq_true_iff.1 he
      have hf := Nat.max_le.1 (Nat.le_of_succ_le_succ hf)
      simp only [eval_bop, ih a he.1 hf.1, ih b he.2 hf.2, ceval]
      cases ceval a <;> cases ceval b <;> rfl
    | unitLit | var | lam | app | assign | seq => cases he

/-- `depth e + 1`: one step for the assignment, `depth e` for `e` under it -/
theorem eval_let (bi : List (String × Rat)) {e : Expr} {q : Rat} (he : closedArith e = true) (hq : ceval e = .ok q)
    {fuel : Nat} (hf : depth e + 1 ≤ fuel) (x : String) (b : Expr) (sc : Scope) (vs : Vars) :
    eval bi (fuel + 1) (.seq (.assign x e) b) sc vs = eval bi fuel b sc (setVar vs x (.num q)) := by
  cases fuel with
  | zero => cases hf
  | succ f =>
    rw [eval_seq, eval_assign, eval_closed bi f e he (Nat.le_of_succ_le_succ hf) sc vs, hq]
    rfl

def plainBody : Expr → Bool
  | .num _ => true
  | .unitLit => true
  | .var _ => true
  | .parens e => plainBody e
  | .neg e => plainBody e
  | .bop _ a b => plainBody a && plainBody b
  | .seq a b => plainBody a && plainBody b
  | _ => false

/-- a change of the variables commutes with sequencing, if it commutes with what follows -/
theorem andThen_map {g : Vars → Vars} {a : Except Err Value × Vars} {k k' : Value → Vars → Except Err Value × Vars}
    (h : ∀ v w, k v (g w) = (k' v w).map id g) : andThen (a.map id g) k = (andThen a k').map id g := by
  rcases a with ⟨_ | v, w⟩
  · rfl
  · exact h v w

/-- a plain body only ever reads the variables, so `x ↦ q` may as well be set afterwards -/
theorem let_plain (bi : List (String × Rat)) (x : String) (e : Expr) (q : Rat) (he : closedArith e = true) (hq : ceval e = .ok q) :
    ∀ fuel b, plainBody b = true → depth (subst x e b) ≤ fuel → ∀ vs,
      eval bi fuel b .nil (setVar vs x (.num q)) = (eval bi fuel (subst x e b) .nil vs).map id (setVar · x (.num q)) := by
  intro fuel
  induction fuel with
  | zero => intro _ _ _ _; rfl
  | succ f ih =>
    intro b hb hf vs
    cases b with
    | num r => rfl
    | unitLit => rfl
    | var y =>
      rw [eval_var_global _ _ _ _ rfl, global]
      by_cases hy : y = x
      · subst hy
        rw [subst_var_self] at hf ⊢
        rw [eval_parens, eval_closed bi f e he (Nat.le_of_succ_le_succ hf) .nil vs, hq, lookup_setVar_same]; rfl
      · rw [subst_var_ne hy, eval_var_global _ _ _ _ rfl, global, lookup_setVar_other _ _ _ _ hy]; rfl
    | parens t => exact ih t hb (Nat.le_of_succ_le_succ hf) vs
    | neg t =>
      rw [subst, eval_neg, eval_neg, ih t hb (Nat.le_of_succ_le_succ hf) vs]
      exact andThen_map fun _ _ => rfl
    | bop op a c =>
      have hb := Bool.and_eq_true_iff.1 hb
      have hf := Nat.max_le.1 (Nat.le_of_succ_le_succ hf)
      rw [subst, eval_bop, eval_bop, ih a hb.1 hf.1 vs]
      exact andThen_map fun _ w => ih c hb.2 hf.2 w ▸ andThen_map fun _ _ => rfl
    | seq a c =>
      have hb := Bool.and_eq_true_iff.1 hb
      have hf := Nat.max_le.1 (Nat.le_of_succ_le_succ hf)
      rw [subst, eval_seq, eval_seq, ih a hb.1 hf.1 vs]
      exact andThen_map fun _ w => ih c hb.2 hf.2 w
    | lam | app | assign => cases hb

end Fend.Scope
