/-
The text primitives of `Model/XRates.lean`. First the slices: a suffix of a valid string is valid again unless it begins
with a byte ≥ 128 (`valid_drop`), so what begins at or right after an ASCII needle is valid, the parsers' invariant is just
`validUtf8` of what is left to scan, and the boundary that `sliceFrom` asks for follows from it. Then: what trimming and line
splitting return is a piece of their input.
-/
import FendModel.Model.XRates

namespace Fend.XRates
open Fend.Ser

theorem validUtf8_ascii (b : Nat) (t : Bytes) (h : b < 128) : validUtf8 (b :: t) = validUtf8 t := by
  conv => lhs; unfold validUtf8
  exact if_pos (by omega)

theorem range_ge {l h c : Nat} (hc : (decide (l ≤ c) && decide (c ≤ h)) = true) : l ≤ c := by
  simp only [Bool.and_eq_true, decide_eq_true_eq] at hc
  exact hc.1

theorem valid_cons (b : Nat) (t : Bytes) (hv : validUtf8 (b :: t) = true) :
    isCont b = false ∧ ∃ cs rest, t = cs ++ rest ∧ (∀ c ∈ cs, 128 ≤ c) ∧ validUtf8 rest = true := by
  -- `isCont c` is the range test from 128 to 191
  have hge : ∀ c, isCont c = true → 128 ≤ c := fun _ => range_ge
  have hnc : b ≤ 127 ∨ 194 ≤ b → isCont b = false := by intro h; simp [isCont]; omega
  -- the second byte of a three- or four-byte character, whose range depends on the first
  have hge2 : ∀ {p q : Prop} [Decidable p] [Decidable q] {l h l' h' c : Nat}, 128 ≤ l → 128 ≤ l' →
      (if p then decide (l ≤ c) && decide (c ≤ h) else if q then decide (l' ≤ c) && decide (c ≤ h')
        else isCont c) = true → 128 ≤ c := by
    intro p q _ _ l h l' h' c hl hl' hc
    split at hc
    · exact Nat.le_trans hl (range_ge hc)
    split at hc
    · exact Nat.le_trans hl' (range_ge hc)
    · exact hge c hc
  revert hv
  generalize hs : b :: t = s
  -- one case per width of the first character; in the others (cut short, or no lead byte) `validUtf8 s` is `false`
  fun_cases validUtf8 s <;> cases hs <;> intro hv
  case case2 h => exact ⟨hnc (.inl h), [], t, rfl, nofun, hv⟩
  case case3 c rest _ h =>
    simp only [Bool.and_eq_true, decide_eq_true_eq] at h hv
    exact ⟨hnc (.inr h.1), [c], rest, rfl, by simp [hge c hv.1], hv.2⟩
  case case5 c d rest _ _ h =>
    simp only [Bool.and_eq_true, decide_eq_true_eq] at h hv
    exact ⟨hnc (.inr (by omega)), [c, d], rest, rfl,
      by simp [hge2 (by decide) (by decide) hv.1.1, hge d hv.1.2], hv.2⟩
  case case7 c d e rest _ _ _ h =>
    simp only [Bool.and_eq_true, decide_eq_true_eq] at h hv
    exact ⟨hnc (.inr (by omega)), [c, d, e], rest, rfl,
      by simp [hge2 (by decide) (by decide) hv.1.1.1, hge d hv.1.1.2, hge e hv.1.2], hv.2⟩
  all_goals cases hv

/-- a cut inside a character leaves one of its trailing bytes in front -/
theorem valid_drop (s : Bytes) (hv : validUtf8 s = true) (i : Nat) :
    validUtf8 (s.drop i) = true ∨ ∃ c r, s.drop i = c :: r ∧ 128 ≤ c := by
  match s, i with
  | [], _ => exact .inl (by rw [List.drop_nil]; rfl)
  | _ :: _, 0 => exact .inl hv
  | b0 :: t, i + 1 =>
    obtain ⟨-, cs, rest, ht, hcs, hvr⟩ := valid_cons b0 t hv
    rw [List.drop_succ_cons, ht, List.drop_append]
    cases h : cs.drop i with
    | nil => exact valid_drop rest hvr _
    | cons c r => exact .inr ⟨c, _, rfl, hcs c (List.mem_of_mem_drop (h ▸ List.mem_cons_self ..))⟩
termination_by s.length
decreasing_by rw [ht, List.length_cons, List.length_append]; omega

theorem valid_drop_ascii (s : Bytes) (hv : validUtf8 s = true) (i b : Nat) (r : Bytes)
    (hd : s.drop i = b :: r) (hb : b < 128) : validUtf8 (b :: r) = true := by
  obtain h | ⟨c, _, h, hc⟩ := valid_drop s hv i <;> rw [hd] at h
  · exact h
  · injection h with h
    omega

theorem isBoundary_of_valid_drop (s : Bytes) (k : Nat) (hk : k ≤ s.length)
    (h : validUtf8 (s.drop k) = true) : isBoundary s k = true := by
  unfold isBoundary
  split
  · rfl
  · have hlt : k < s.length := by omega
    rw [List.drop_eq_getElem_cons hlt] at h
    rw [List.getElem?_eq_getElem hlt]
    have := (valid_cons _ _ h).1
    simp [isCont] at this ⊢
    omega

/-- after an ASCII byte of a valid string comes a character boundary -/
theorem ascii_then_boundary : ∀ (n : Nat) (s : Bytes), s.length ≤ n → validUtf8 s = true → ∀ i b, s[i]? = some b → b < 128 → isBoundary s (i + 1) = true := by
  -- `n` plays no part
  intro _ s _ hv i b hi hb
  obtain ⟨hlt, rfl⟩ := List.getElem?_eq_some_iff.mp hi
  have := valid_drop_ascii s hv i _ _ (List.drop_eq_getElem_cons hlt) hb
  rw [validUtf8_ascii _ _ hb] at this
  exact isBoundary_of_valid_drop s (i + 1) hlt this

theorem findSub_spec (needle s : Bytes) : ∀ i, findSub needle s = some i → needle <+: s.drop i := by
  fun_induction findSub needle s with
  | case1 h => rintro _ ⟨rfl⟩; exact List.isPrefixOf_iff_prefix.mp h
  | case2 => nofun
  | case3 x t h => rintro _ ⟨rfl⟩; exact List.isPrefixOf_iff_prefix.mp h
  | case4 x t _ ih =>
    intro i h
    obtain ⟨k, hk, rfl⟩ := Option.map_eq_some_iff.mp h
    exact ih k hk

theorem valid_of_ascii_append (n r : Bytes) (ha : ∀ b ∈ n, b < 128) (h : validUtf8 (n ++ r) = true) :
    validUtf8 r = true := by
  induction n with
  | nil => exact h
  | cons b n ih =>
    rw [List.cons_append, validUtf8_ascii _ _ (ha b (List.mem_cons_self ..))] at h
    exact ih (fun x hx => ha x (List.mem_cons_of_mem _ hx)) h

/-- Lean takes a string literal for `String.ofList` of its characters, so this rewrites `cp "…"` to the list of their codes
without decoding the string, which to evaluate costs about as much per character as all the rest of a stage's proof -/
theorem cp_ofList (l : List Char) : cp (String.ofList l) = l.map Char.toNat := by
  rw [cp, String.toList_ofList]

theorem valid_at_needle (s : Bytes) (hv : validUtf8 s = true) (needle : Bytes) (k : Nat)
    (hn : needle ≠ [] ∧ (∀ b ∈ needle, b < 128) ∧ needle.length = k) (i : Nat)
    (hf : findSub needle s = some i) :
    i + k ≤ s.length ∧ validUtf8 (s.drop i) = true ∧ validUtf8 (s.drop (i + k)) = true := by
  obtain ⟨hne, ha, rfl⟩ := hn
  obtain ⟨r, hr⟩ := findSub_spec needle s i hf
  have hpos := List.length_pos_iff.mpr hne
  have hl := congrArg List.length hr
  rw [List.length_append, List.length_drop] at hl
  have h1 : validUtf8 (needle ++ r) = true := by
    obtain ⟨b, n, rfl⟩ := List.exists_cons_of_ne_nil hne
    exact valid_drop_ascii s hv i b (n ++ r) hr.symm (ha b (List.mem_cons_self ..))
  refine ⟨by omega, hr ▸ h1, ?_⟩
  rw [← List.drop_drop, ← hr, List.drop_left]
  exact valid_of_ascii_append _ r ha h1

theorem sliceFrom_valid (s : Bytes) (k : Nat) (hk : k ≤ s.length) (h : validUtf8 (s.drop k) = true) :
    sliceFrom s k = .ok (s.drop k) := by
  rw [sliceFrom, if_pos (isBoundary_of_valid_drop s k hk h)]

theorem trimStart_suffix (fuel : Nat) (s : Bytes) : trimStart fuel s <:+ s := by
  fun_induction trimStart fuel s with
  | case1 s => exact List.suffix_refl s
  | case2 _ s _ => exact List.suffix_refl s
  | case3 _ s _ ih => exact ih.trans (List.drop_suffix ..)

theorem trimEndRev_suffix (fuel : Nat) (s : Bytes) : trimEndRev fuel s <:+ s := by
  fun_induction trimEndRev fuel s with
  | case1 s => exact List.suffix_refl s
  | case2 _ s _ => exact List.suffix_refl s
  | case3 _ s _ ih => exact ih.trans (List.drop_suffix ..)

theorem trim_infix (s : Bytes) : trim s <:+: s :=
  (List.reverse_prefix.mpr (trimEndRev_suffix _ _)).isInfix.trans
    (List.reverse_reverse _ ▸ (trimStart_suffix _ s).isInfix)

theorem trimStartMatches_suffix (pat : Bytes) (fuel : Nat) (s : Bytes) : trimStartMatches pat fuel s <:+ s := by
  fun_induction trimStartMatches pat fuel s with
  | case1 s => exact List.suffix_refl s
  | case2 _ s _ ih => exact ih.trans (List.drop_suffix ..)
  | case3 _ s _ => exact List.suffix_refl s

theorem splitLines_go_infix (rest acc : Bytes) :
    ∀ l ∈ splitLines.go rest acc, l <:+: acc.reverse ++ rest := by
  fun_induction splitLines.go rest acc with
  | case1 => nofun
  | case2 acc =>
    intro l hl
    rw [List.mem_singleton.mp hl, List.append_nil]
    exact List.infix_refl _
  | case3 rest acc ih =>
    intro l hl
    obtain rfl | hl := List.mem_cons.mp hl
    · exact (List.prefix_append ..).isInfix
    · exact (ih l hl).trans ((List.suffix_cons ..).trans (List.suffix_append ..)).isInfix
  | case4 b rest acc _ ih =>
    intro l hl
    have := ih l hl
    rwa [List.reverse_cons, List.append_assoc] at this

theorem splitLines_infix (s : Bytes) : ∀ l ∈ splitLines s, l <:+: s := by
  fun_cases splitLines s
  · nofun
  · exact splitLines_go_infix s []

end Fend.XRates
