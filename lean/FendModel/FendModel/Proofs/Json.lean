/-
`escapeString` against the RFC 8259 decoder. `decodeAux` gets one equation per kind of item an escaped string is made of,
and `escapeChar` is split once into its three shapes (`escapeChar_cases`); the round trip, the output alphabet and
the length bound all argue from those.
-/
import FendModel.Model.Json

namespace Fend.Json

theorem hexVal_hexDigit (d : Nat) (h : d < 16) : hexVal (hexDigit d) = some d := by
  revert d; decide

theorem hexDigit_ascii (d : Nat) (h : d < 16) : 0x20 ≤ hexDigit d ∧ hexDigit d ≤ 0x7e := by
  unfold hexDigit; split <;> omega

theorem u4_digits (cu : Nat) (h : cu < 0x10000) :
    cu / 0x1000 < 16 ∧ cu % 0x1000 / 0x100 < 16 ∧ cu % 0x100 / 0x10 < 16 ∧ cu % 0x10 < 16 :=
  ⟨Nat.div_lt_of_lt_mul h, Nat.div_lt_of_lt_mul (Nat.mod_lt _ (by decide)),
    Nat.div_lt_of_lt_mul (Nat.mod_lt _ (by decide)), Nat.mod_lt _ (by decide)⟩

theorem hex4_u4 (cu : Nat) (h : cu < 0x10000) (rest : List Nat) :
    hex4 (hexDigit (cu / 0x1000) :: hexDigit (cu % 0x1000 / 0x100) :: hexDigit (cu % 0x100 / 0x10)
      :: hexDigit (cu % 0x10) :: rest) = some (cu, rest) := by
  obtain ⟨h1, h2, h3, h4⟩ := u4_digits cu h
  simp only [hex4, hexVal_hexDigit _ h1, hexVal_hexDigit _ h2, hexVal_hexDigit _ h3, hexVal_hexDigit _ h4,
    Option.some.injEq, Prod.mk.injEq, and_true]
  omega

theorem decodeAux_plain (fuel c : Nat) (rest : List Nat) (h1 : c ≠ 34) (h2 : c ≠ 92) (h3 : 0x20 ≤ c) :
    decodeAux (fuel + 1) (c :: rest) = (decodeAux fuel rest).map (c :: ·) := by
  simp only [decodeAux, if_neg h1, if_neg h2, if_neg (Nat.not_lt.mpr h3)]

theorem decodeAux_simple (fuel e ch : Nat) (rest : List Nat) (h : simpleEscape e = some ch) :
    decodeAux (fuel + 1) (92 :: e :: rest) = (decodeAux fuel rest).map (ch :: ·) := by
  have he : e ≠ 117 := by rintro rfl; cases h
  simp only [decodeAux, Nat.reduceEqDiff, if_false, if_true, if_neg he, h]

theorem decodeAux_codeUnit (fuel cu : Nat) (ds rest : List Nat) (h : hex4 ds = some (cu, rest))
    (hs : ¬ (0xD800 ≤ cu ∧ cu < 0xE000)) :
    decodeAux (fuel + 1) (92 :: 117 :: ds) = (decodeAux fuel rest).map (cu :: ·) := by
  simp only [decodeAux, Nat.reduceEqDiff, if_false, if_true, h]
  rw [if_neg (by omega), if_neg (by omega)]

theorem decodeAux_pair (fuel hi lo : Nat) (ds ds' rest : List Nat)
    (h1 : hex4 ds = some (hi, 92 :: 117 :: ds')) (h2 : hex4 ds' = some (lo, rest))
    (hhi : 0xD800 ≤ hi ∧ hi < 0xDC00) (hlo : 0xDC00 ≤ lo ∧ lo < 0xE000) :
    decodeAux (fuel + 1) (92 :: 117 :: ds)
      = (decodeAux fuel rest).map ((0x10000 + (hi - 0xD800) * 0x400 + (lo - 0xDC00)) :: ·) := by
  simp only [decodeAux, Nat.reduceEqDiff, if_false, if_true, h1, h2, hhi, hlo, and_self]

/-- the surrogate pair of `utf16` recombined, in the unsimplified form in which `decodeAux_pair` delivers it -/
theorem utf16_pair (c : Nat) (h1 : 0x10000 ≤ c) :
    0x10000 + (0xD800 + (c - 0x10000) / 0x400 - 0xD800) * 0x400 + (0xDC00 + (c - 0x10000) % 0x400 - 0xDC00) = c := by
  rw [Nat.add_sub_cancel_left, Nat.add_sub_cancel_left, Nat.add_assoc, Nat.div_add_mod', Nat.add_sub_cancel' h1]

theorem escapeChar_cases (c : Nat) :
    (∃ e, escapeChar c = [92, e] ∧ simpleEscape e = some c ∧ 0x20 ≤ e ∧ e ≤ 0x7e) ∨
    (escapeChar c = [c] ∧ c ≠ 34 ∧ c ≠ 92 ∧ 0x20 ≤ c ∧ c ≤ 0x7e) ∨
    escapeChar c = (utf16 c).flatMap u4 := by
  fun_cases escapeChar c
  -- the five two-character escapes, each with its own `e`
  iterate 5 (next h => subst h; exact .inl ⟨_, rfl, by decide⟩)
  · next h => exact .inr (.inl ⟨rfl, ‹_›, ‹_›, h⟩)
  · exact .inr (.inr rfl)

theorem decode_escapeChar (c : Nat) (hc : isScalar c) (rest : List Nat) (fuel : Nat) :
    decodeAux (fuel + 1) (escapeChar c ++ rest) = (decodeAux fuel rest).map (fun t => c :: t) := by
  unfold isScalar at hc
  obtain ⟨e, h, hs, -⟩ | ⟨h, h1, h2, h3, -⟩ | h := escapeChar_cases c <;> rw [h]
  · exact decodeAux_simple fuel e c rest hs
  · exact decodeAux_plain fuel c rest h1 h2 h3
  · unfold utf16
    split
    · exact decodeAux_codeUnit fuel c _ rest (hex4_u4 c ‹_› rest) (by omega)
    · have := decodeAux_pair fuel _ _ _ _ rest (hex4_u4 (0xD800 + (c - 0x10000) / 0x400) (by omega) _)
        (hex4_u4 (0xDC00 + (c - 0x10000) % 0x400) (by omega) rest) (by omega) (by omega)
      -- rewritten, not left to `rfl` or `simp`: to compare the two sides they unfold `_ - 55296` in unary,
      -- which runs the kernel out of stack
      rw [utf16_pair c (by omega)] at this
      exact this

theorem length_le_flatMap {α β} (f : α → List β) (h : ∀ a, 1 ≤ (f a).length) (s : List α) :
    s.length ≤ (s.flatMap f).length := by
  induction s with
  | nil => exact Nat.le_refl 0
  | cons a s ih =>
    have := h a
    rw [List.flatMap_cons, List.length_append, List.length_cons]
    omega

theorem escapeChar_length_pos (c : Nat) : 1 ≤ (escapeChar c).length := by
  obtain ⟨e, h, -⟩ | ⟨h, -⟩ | h := escapeChar_cases c <;> rw [h]
  · exact Nat.le_add_left 1 1
  · exact Nat.le_refl 1
  · unfold utf16
    split <;> simp [u4]

theorem escapeString_length (s : List Nat) : s.length ≤ (escapeString s).length :=
  length_le_flatMap _ escapeChar_length_pos s

theorem decode_escapeString (s : List Nat) (hs : ∀ c ∈ s, isScalar c) (fuel : Nat)
    (hf : s.length + 1 ≤ fuel) :
    decodeAux fuel (escapeString s ++ [34]) = some s := by
  unfold escapeString
  induction fuel generalizing s with
  | zero => omega
  | succ f ih =>
    cases s with
    | nil => simp [decodeAux]
    | cons c s =>
      obtain ⟨hc, hs⟩ := List.forall_mem_cons.1 hs
      rw [List.flatMap_cons, List.append_assoc, decode_escapeChar c hc, ih s hs (Nat.le_of_succ_le_succ hf)]
      rfl

theorem utf16_lt (c : Nat) (h : c < 0x110000) : ∀ cu ∈ utf16 c, cu < 0x10000 := by
  unfold utf16
  split <;> simp only [List.forall_mem_cons]
  · exact ⟨‹_›, nofun⟩
  · exact ⟨by omega, by omega, nofun⟩

theorem u4_ascii (cu : Nat) (h : cu < 0x10000) : ∀ x ∈ u4 cu, 0x20 ≤ x ∧ x ≤ 0x7e := by
  obtain ⟨h1, h2, h3, h4⟩ := u4_digits cu h
  simp only [u4, List.forall_mem_cons]
  exact ⟨by decide, by decide, hexDigit_ascii _ h1, hexDigit_ascii _ h2, hexDigit_ascii _ h3, hexDigit_ascii _ h4, nofun⟩

theorem escapeChar_ascii (c : Nat) (hc : isScalar c) : ∀ x ∈ escapeChar c, 0x20 ≤ x ∧ x ≤ 0x7e := by
  obtain ⟨e, h, -, he⟩ | ⟨h, -, -, hr⟩ | h := escapeChar_cases c <;> rw [h]
  · simp only [List.forall_mem_cons]
    exact ⟨by decide, he, nofun⟩
  · simp only [List.forall_mem_cons]
    exact ⟨hr, nofun⟩
  · intro x hx
    obtain ⟨cu, hcu, hx⟩ := List.mem_flatMap.mp hx
    exact u4_ascii cu (utf16_lt c (by unfold isScalar at hc; omega) cu hcu) x hx

end Fend.Json
