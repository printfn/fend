/-
Expression trees over complex rationals: + - * / unary minus, conjugate, and literals a + bi, evaluated with the modelled
`Exact<Complex>` operations.  The result denotes the tree's value in Q(i); the only error is division by 0 + 0i.
-/
import FendModel.Proofs.Complex

namespace Fend
namespace Cx
open BigRat BigUint

inductive CExpr where
  | lit (c : Cx)
  | neg (a : CExpr)
  | conj (a : CExpr)
  | add (a b : CExpr)
  | sub (a b : CExpr)
  | mul (a b : CExpr)
  | div (a b : CExpr)

/-- evaluation with the modelled operations, left operand first; `a - b` is `a + (-b)` as in `Value::sub` -/
def evalC : CExpr → R Cx
  | .lit c => .ok c
  | .neg a => match evalC a with
    | .ok x => .ok (Cx.neg x)
    | .error e => .error e
  | .conj a => match evalC a with
    | .ok x => .ok (Cx.conj x)
    | .error e => .error e
  | .add a b => match evalC a with
    | .ok x => (match evalC b with
      | .ok y => Cx.add x y
      | .error e => .error e)
    | .error e => .error e
  | .sub a b => match evalC a with
    | .ok x => (match evalC b with
      | .ok y => Cx.add x (Cx.neg y)
      | .error e => .error e)
    | .error e => .error e
  | .mul a b => match evalC a with
    | .ok x => (match evalC b with
      | .ok y => Cx.mul x y
      | .error e => .error e)
    | .error e => .error e
  | .div a b => match evalC a with
    | .ok x => (match evalC b with
      | .ok y => Cx.div x y
      | .error e => .error e)
    | .error e => .error e

/-- the value in Q(i) as a pair (real, imaginary); `none` when some divisor is 0 + 0i -/
def denoteC : CExpr → Option (Rat × Rat)
  | .lit c => some (valQ c.re, valQ c.im)
  | .neg a => (denoteC a).map fun (x, y) => (-x, -y)
  | .conj a => (denoteC a).map fun (x, y) => (x, -y)
  | .add a b => do let (u, v) ← denoteC a; let (x, y) ← denoteC b; some (u + x, v + y)
  | .sub a b => do let (u, v) ← denoteC a; let (x, y) ← denoteC b; some (u - x, v - y)
  | .mul a b => do let (u, v) ← denoteC a; let (x, y) ← denoteC b; some (u * x - v * y, u * y + v * x)
  | .div a b => do
    let (u, v) ← denoteC a
    let (x, y) ← denoteC b
    if x = 0 ∧ y = 0 then none
    else some ((u * x + v * y) / (x * x + y * y), (v * x - u * y) / (x * x + y * y))

def LeavesOKC : CExpr → Prop
  | .lit c => OKC c
  | .neg a | .conj a => LeavesOKC a
  | .add a b | .sub a b | .mul a b | .div a b => LeavesOKC a ∧ LeavesOKC b

/-- As `BigRat.evalQ_bind`: stated after `evalC` in the same file, so that Lean reuses `evalC`'s matcher. -/
theorem evalC_bind (m : R Cx) (k : Cx → R Cx) :
    (match m with | .ok x => k x | .error e => .error e) = m >>= k := by
  cases m <;> rfl

theorem evalC_refines (e : CExpr) (hl : LeavesOKC e) : Refines Rep (evalC e) (denoteC e) := by
  induction e <;> simp only [evalC, denoteC, evalC_bind]
  case lit c => exact ⟨c, rfl, OKC.rep hl⟩
  case neg a ih => exact (ih hl).map fun _ _ => Rep.neg
  case conj a ih => exact (ih hl).map fun _ _ => Rep.conj
  case add a b iha ihb => exact (iha hl.1).bind₂ (ihb hl.2) Rep.add
  case sub a b iha ihb => exact (iha hl.1).bind₂ (ihb hl.2) Rep.sub
  case mul a b iha ihb => exact (iha hl.1).bind₂ (ihb hl.2) Rep.mul
  case div a b iha ihb => exact (iha hl.1).bind₂ (ihb hl.2) Rep.div

end Cx
end Fend
