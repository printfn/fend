/-
The complex layer over exact rationals: `add`, `mul`, `div` of `Exact<Complex>` denote the field operations of Q(i)
(for every representation of the four rational parts, including the zero short-cuts and the both-real fast path of `div`);
`div` fails exactly for a zero divisor, with `divideByZero`.
-/
import FendModel.Model.Complex
import FendModel.Proofs.BigRat

namespace Fend

/-! The slice of `Exact<Real>` under the complex operations: the field operations with zero short-cuts. -/
namespace BigRat.Rep
open Cx BigUint
variable {a b : BigRat} {p q : Rat}

theorem isZero_iff (h : Rep a p) : isZero a = true ↔ p = 0 := by
  rw [Cx.isZero, h.cmpD rep_zero, Bool.or_eq_true, beq_iff_eq, compare_eq_iff_eq]
  refine ⟨fun h1 => h1.elim (fun h2 => ?_) id, Or.inr⟩
  rw [← h.val_eq, valQ_eq_zero_iff a h.den_ne]
  unfold defZero at h2
  split at h2
  · rename_i n hn; rw [hn]; simpa [val] using h2
  · cases h2

theorem radd (ha : Rep a p) (hb : Rep b q) : ∃ r, radd a b = .ok r ∧ Rep r (p + q) := by
  fun_cases Cx.radd a b with
  | case1 h1 => exact ⟨b, rfl, hb.cast (by rw [ha.isZero_iff.mp h1, zero_add])⟩
  | case2 _ h2 => exact ⟨a, rfl, ha.cast (by rw [hb.isZero_iff.mp h2, add_zero])⟩
  | case3 => exact ha.add hb

theorem rmul (ha : Rep a p) (hb : Rep b q) : ∃ r, rmul a b = .ok r ∧ Rep r (p * q) := by
  fun_cases Cx.rmul a b with
  | case1 h1 => exact ⟨a, rfl, ha.cast (by rw [ha.isZero_iff.mp h1, zero_mul])⟩
  | case2 _ h2 => exact ⟨b, rfl, hb.cast (by rw [hb.isZero_iff.mp h2, mul_zero])⟩
  | case3 => exact ⟨_, rfl, ha.mul hb⟩

theorem rdiv (ha : Rep a p) (hb : Rep b q) : Refines Rep (rdiv a b) (if q = 0 then none else some (p / q)) := by
  simp only [Cx.rdiv, ha.isZero_iff, hb.isZero_iff]
  split_ifs with h2 h1
  · rfl
  · exact ⟨a, rfl, ha.cast (by rw [h1, zero_div])⟩
  · exact ha.div_of_ne hb h2

end BigRat.Rep

namespace Cx
open BigRat BigUint

def OKC (c : Cx) : Prop := OKQ c.re ∧ OKQ c.im

/-- Built with `Rep.mk` or `OKC.rep`, read through `Rep.re`, `Rep.im` and `Rep.okc`. -/
def Rep (c : Cx) (z : Rat × Rat) : Prop := (valQ c.re, valQ c.im) = z ∧ OKC c

/-- the quotient of `Rep.div` times the divisor is the dividend -/
theorem quot_mul (u v x y : Rat) (h : ¬ (x = 0 ∧ y = 0)) :
    (u * x + v * y) / (x * x + y * y) * x - (v * x - u * y) / (x * x + y * y) * y = u ∧
    (u * x + v * y) / (x * x + y * y) * y + (v * x - u * y) / (x * x + y * y) * x = v := by
  have hs : x * x + y * y ≠ 0 := mt mul_self_add_mul_self_eq_zero.mp h
  constructor
  · rw [div_mul_eq_mul_div, div_mul_eq_mul_div, ← sub_div, div_eq_iff hs]; ring
  · rw [div_mul_eq_mul_div, div_mul_eq_mul_div, ← add_div, div_eq_iff hs]; ring

/-- for real operands the quotient of `Rep.div` is the real quotient: `(u x / x², 0 / x²) = (u / x, 0)` -/
theorem quot_real {u v x y : Rat} (hv : v = 0) (hy : y = 0) (hx : x ≠ 0) :
    ((u * x + v * y) / (x * x + y * y), (v * x - u * y) / (x * x + y * y)) = (u / x, 0) := by
  rw [hv, hy, mul_zero, add_zero, add_zero, zero_mul, mul_zero, sub_zero, zero_div, mul_div_mul_right u x hx]

namespace Rep
variable {a b c : Cx} {w z : Rat × Rat} {u v x y : Rat}

theorem mk {re im : BigRat} {p q : Rat} (h1 : BigRat.Rep re p) (h2 : BigRat.Rep im q) : Rep ⟨re, im⟩ (p, q) :=
  ⟨congrArg₂ Prod.mk h1.val_eq h2.val_eq, h1.okq, h2.okq⟩

theorem okc (h : Rep c z) : OKC c := h.2

theorem re (h : Rep c z) : BigRat.Rep c.re z.1 := h.okc.1.rep.cast (congrArg Prod.fst h.1)
theorem im (h : Rep c z) : BigRat.Rep c.im z.2 := h.okc.2.rep.cast (congrArg Prod.snd h.1)

theorem cast (h : Rep c z) (e : z = w) : Rep c w := e ▸ h

theorem neg (h : Rep c (x, y)) : Rep (neg c) (-x, -y) := mk h.re.negate h.im.negate
theorem conj (h : Rep c (x, y)) : Rep (conj c) (x, -y) := mk h.re h.im.negate

theorem add (ha : Rep a (u, v)) (hb : Rep b (x, y)) : ∃ r, add a b = .ok r ∧ Rep r (u + x, v + y) := by
  obtain ⟨re, h1, r1⟩ := ha.re.radd hb.re
  obtain ⟨im, h2, r2⟩ := ha.im.radd hb.im
  exact ⟨⟨re, im⟩, by simp only [Cx.add, h1, h2], mk r1 r2⟩

theorem sub (ha : Rep a (u, v)) (hb : Rep b (x, y)) : ∃ r, Cx.add a (Cx.neg b) = .ok r ∧ Rep r (u - x, v - y) :=
  let ⟨r, hr, h⟩ := ha.add hb.neg
  ⟨r, hr, h.cast (congrArg₂ Prod.mk (sub_eq_add_neg u x).symm (sub_eq_add_neg v y).symm)⟩

theorem mul (ha : Rep a (u, v)) (hb : Rep b (x, y)) : Refines Rep (mul a b) (some (u * x - v * y, u * y + v * x)) :=
  .step (ha.re.rmul hb.re) fun _ r1 => .step (ha.im.rmul hb.im) fun _ r2 => .step (r1.radd r2.negate) fun _ r3 =>
  .step (ha.re.rmul hb.im) fun _ r4 => .step (ha.im.rmul hb.re) fun _ r5 => .step (r4.radd r5) fun _ r6 =>
    ⟨_, rfl, mk (r3.cast (sub_eq_add_neg _ _).symm) r6⟩

theorem div (ha : Rep a (u, v)) (hb : Rep b (x, y)) : Refines Rep (div a b)
    (if x = 0 ∧ y = 0 then none else
      some ((u * x + v * y) / (x * x + y * y), (v * x - u * y) / (x * x + y * y))) := by
  fun_cases Cx.div a b with
  | case1 hfast =>
    obtain ⟨hv, hy⟩ : v = 0 ∧ y = 0 := by
      rwa [Bool.and_eq_true, ha.im.isZero_iff, hb.im.isZero_iff] at hfast
    have hd := (ha.re.rdiv hb.re).map (g := fun re => (⟨re, BigRat.ofNat64 0⟩ : Cx)) (f := fun t => (t, (0 : Rat)))
      fun _ _ h => mk h rep_zero
    by_cases hx : x = 0
    · rw [if_pos ⟨hx, hy⟩]; rwa [if_pos hx] at hd
    · rw [if_neg (fun h => hx h.1), quot_real hv hy hx]; rwa [if_neg hx] at hd
  | case2 =>
    refine .step (hb.re.rmul hb.re) fun _ r1 => .step (hb.im.rmul hb.im) fun _ r2 => .step (r1.radd r2) fun _ r3 => ?_
    have hd := rep_one.rdiv r3
    by_cases hz : x = 0 ∧ y = 0
    · rw [if_pos (mul_self_add_mul_self_eq_zero.mpr hz)] at hd
      rw [if_pos hz, show Cx.rdiv _ _ = _ from hd]; rfl
    · rw [if_neg (mt mul_self_add_mul_self_eq_zero.mp hz)] at hd
      rw [if_neg hz]
      refine .step hd fun _ r4 => .step (ha.re.rmul hb.re) fun _ r5 => .step (ha.im.rmul hb.im) fun _ r6 =>
        .step (r5.radd r6) fun _ r7 => .step (ha.im.rmul hb.re) fun _ r8 => .step (ha.re.rmul hb.im) fun _ r9 =>
        .step (r8.radd r9.negate) fun _ r10 => ?_
      obtain ⟨r, hr, h⟩ := mul (mk r4 rep_zero) (mk r7 r10)
      exact ⟨r, hr, h.cast (congrArg₂ Prod.mk (by ring) (by ring))⟩

end Rep

theorem OKC.rep {c : Cx} (h : OKC c) : Rep c (valQ c.re, valQ c.im) := ⟨rfl, h⟩

theorem add_val (a b : Cx) (ha : OKC a) (hb : OKC b) :
    ∃ r, add a b = .ok r ∧ valQ r.re = valQ a.re + valQ b.re ∧ valQ r.im = valQ a.im + valQ b.im ∧ OKC r := by
  obtain ⟨r, hr, h⟩ := ha.rep.add hb.rep
  exact ⟨r, hr, h.re.val_eq, h.im.val_eq, h.okc⟩

theorem mul_val (a b : Cx) (ha : OKC a) (hb : OKC b) :
    ∃ r, mul a b = .ok r ∧ valQ r.re = valQ a.re * valQ b.re - valQ a.im * valQ b.im ∧
      valQ r.im = valQ a.re * valQ b.im + valQ a.im * valQ b.re ∧ OKC r := by
  obtain ⟨r, hr, h⟩ := ha.rep.mul hb.rep
  exact ⟨r, hr, h.re.val_eq, h.im.val_eq, h.okc⟩

end Cx
end Fend
