/-
The top of the grammar over complete operator chains: `==` / `!=` (one comparison, between two chains), `=` (right-nested
assignments to identifiers) and `;` (statement sequences, folded to the left) parse back to exactly the tree the manual's
table prescribes.
-/
import FendModel.Proofs.Parser

namespace Fend.Parser

inductive EqT where
  | plain (c : Chain 6)
  | cmp (isEq : Bool) (l r : Chain 6)

def EqT.toExpr : EqT → Expr
  | .plain c => c.toExpr
  | .cmp b l r => .equality b l.toExpr r.toExpr

def EqT.toToks : EqT → List Tok
  | .plain c => c.toToks
  | .cmp b l r => l.toToks ++ .sym (if b then .eq2 else .ne) :: r.toToks

inductive AsT where
  | plain (e : EqT)
  | assign (x : String) (a : AsT)

def AsT.toExpr : AsT → Expr
  | .plain e => e.toExpr
  | .assign x a => .assign x a.toExpr

def AsT.toToks : AsT → List Tok
  | .plain e => e.toToks
  | .assign x a => .ident x :: .sym .eq :: a.toToks

theorem function_of_chain (c : Chain 6) : Parses .function (Stop 11) c.toToks c.toExpr :=
  (chain_parses c).step fun _ rest hr h => by
    have hfn : symHead rest .fn_ = none := hr.no_symHead (by decide)
    simp [run, h (hr.le (by decide)), hfn]

theorem equality_plain {fuel : Nat} {input rest : List Tok} {r : Expr} (h : run fuel .function input = some (r, rest))
    (hr : After (· ∉ [.eq2, .ne]) rest) : run (fuel + 1) .equality input = some (r, rest) := by
  rcases hr with rfl | ⟨s, r', rfl, hs⟩
  · simp [run, h]
  · simp at hs
    simp [run, h, hs]

theorem equality_cmp {fuel : Nat} (b : Bool) {input mid rest : List Tok} {l r : Expr}
    (hl : run fuel .function input = some (l, .sym (if b then .eq2 else .ne) :: mid))
    (hr : run fuel .function mid = some (r, rest)) : run (fuel + 1) .equality input = some (.equality b l r, rest) := by
  cases b <;> simp [run, hl, hr]

theorem eqt_ok (e : EqT) : Parses .equality (Stop 12) e.toToks e.toExpr := by
  cases e with
  | plain c => exact (function_of_chain c).step fun _ _ hr h =>
      equality_plain (h (hr.le (by decide))) (hr.notMem (by decide))
  | cmp b l r =>
    refine Ev.of_add (d := 1) (((function_of_chain l).and (function_of_chain r)).mono fun fuel ⟨hl, hr⟩ rest hrest => ?_)
    rw [EqT.toToks, List.append_assoc, List.cons_append]
    exact equality_cmp b (hl _ (.sym (by cases b <;> decide) _)) (hr rest (hrest.le (by decide)))

/-- every loop between the comparison level and the atom stops at `=` -/
theorem ident_before_eq (x : String) :
    Ev fun fuel => ∀ more, run fuel .equality (.ident x :: .sym .eq :: more) = some (.ident x, .sym .eq :: more) :=
  -- 16: the longest chain of calls, from `equality` down to `mulLoop` and on through its attempt at a juxtaposition to
  -- `atom`.  The tactic `rfl` compares the two sides once, the term `rfl` twice.
  Ev.of_add (d := 16) ⟨0, fun _ _ _ => by rfl⟩

theorem ast_ok (a : AsT) : Parses .assignment (Stop 13) a.toToks a.toExpr := by
  induction a with
  | plain e =>
    refine (eqt_ok e).step fun _ rest hr h => ?_
    have heq : symHead rest .eq = none := hr.no_symHead (by decide)
    simp [AsT.toExpr, run, h (hr.le (by decide)), heq]
  | assign x a ih =>
    refine Ev.of_add (d := 1) ((ih.and (ident_before_eq x)).mono fun fuel ⟨h, hx⟩ rest hr => ?_)
    simp [AsT.toToks, AsT.toExpr, run, hx, symHead, h rest hr]

theorem eqt_starts : (e : EqT) → StartsWith Starts e.toToks
  | .plain c => chain_starts c
  | .cmp _ l _ => (chain_starts l).append _

theorem ast_starts : (a : AsT) → StartsWith (fun t0 => t0 ≠ .sym .semi ∧ t0 ≠ .sym .closeP) a.toToks
  | .plain e => (eqt_starts e).mono fun _ hs => by rcases hs with ⟨n, rfl⟩ | rfl | rfl <;> simp
  | .assign x a => ⟨.ident x, .sym .eq :: a.toToks, rfl, by simp⟩

def foldStmts (acc : Expr) : List AsT → Expr
  | [] => acc
  | b :: t => foldStmts (.stmts acc b.toExpr) t

def semiToks : List AsT → List Tok
  | [] => []
  | b :: t => .sym .semi :: (b.toToks ++ semiToks t)

theorem semiToks_stop (t : List AsT) {rest : List Tok} (hr : Stop 14 rest) : Stop 13 (semiToks t ++ rest) := by
  cases t with
  | nil => exact hr.le (by decide)
  | cons b t => exact .sym (by decide) _

theorem stmtLoop_stops (fuel : Nat) (res : Expr) {rest : List Tok} (h : After (· ∉ [.semi]) rest) :
    run (fuel + 1) (.stmtLoop res) rest = some (res, rest) := by
  rcases h with rfl | ⟨s, r, rfl, hs⟩
  · rfl
  · simp at hs
    simp [run, hs]

theorem stmtLoop_ok (t : List AsT) : ∀ acc : Expr, Parses (.stmtLoop acc) (Stop 14) (semiToks t) (foldStmts acc t) := by
  induction t with
  | nil => exact fun acc => Ev.of_add (d := 1) ⟨0, fun fuel _ _ hr => stmtLoop_stops fuel acc (hr.notMem (by decide))⟩
  | cons b t ih =>
    intro acc
    obtain ⟨t0, ts, hts, h0, _⟩ := ast_starts b
    refine Ev.of_add (d := 1) (((ast_ok b).and (ih (.stmts acc b.toExpr))).mono fun fuel ⟨hb, ht⟩ rest hr => ?_)
    have h1 := hb _ (semiToks_stop t hr)
    rw [hts, List.cons_append] at h1
    simp [semiToks, foldStmts, hts, run, h0, h1, ht rest hr]

theorem statements_ok (a : AsT) (t : List AsT) : Parses .statements (Stop 14) (a.toToks ++ semiToks t) (foldStmts a.toExpr t) := by
  obtain ⟨t0, ts, hts, h0, _⟩ := ast_starts a
  refine Ev.of_add (d := 1) (((ast_ok a).and (stmtLoop_ok t a.toExpr)).mono fun fuel ⟨ha, ht⟩ rest hr => ?_)
  have h1 := ha _ (semiToks_stop t hr)
  rw [hts, List.cons_append] at h1
  simp [hts, run, h0, h1, ht rest hr]

theorem paren_atom (a : AsT) (t : List AsT) : Parses .atom (fun _ => True)
    (.sym .openP :: (a.toToks ++ semiToks t ++ [.sym .closeP])) (.parens (foldStmts a.toExpr t)) := by
  obtain ⟨t0, ts, hts, _, h0⟩ := ast_starts a
  refine Ev.of_add (d := 1) ((statements_ok a t).mono fun fuel h rest _ => ?_)
  have h1 := h (.sym .closeP :: rest) (.sym (by decide) _)
  simp only [hts, List.cons_append, List.append_assoc] at h1
  simp [hts, run, h0, h1]

end Fend.Parser
