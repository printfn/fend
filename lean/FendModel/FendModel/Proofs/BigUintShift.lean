/-
`lshift` and `rshift` run over the limbs passing one bit along; `lshift` panics only on the empty limb vector.
`lshift_n` is a whole-limb splice followed by `n % 64` one-bit shifts; `rshift_n` is one-bit shifts with an early
exit at zero.
-/
import FendModel.Proofs.BigUintLimbs
import FendModel.Proofs.Refines

namespace Fend.BigUint

/-- the bit shifted out at the top by `shlLimbs` -/
def outBit : List Nat → Nat → Nat
  | [], cin => cin
  | x :: xs, _ => outBit xs (x / 9223372036854775808)

/-- the digit of a doubled limb is even, so the carry-in bit fits on top of it -/
theorem shl_limb (x : Nat) (hx : x < B) :
    x * 2 % B + B * (x / 9223372036854775808) = 2 * x ∧ x * 2 % B + 1 < B
      ∧ x / 9223372036854775808 ≤ 1 := by
  simp only [B] at *; omega

theorem shlLimbs_spec (v : List Nat) (cin : Nat) (hw : WFL v) (hc : cin ≤ 1) :
    valL (shlLimbs v cin) + B ^ v.length * outBit v cin = 2 * valL v + cin
    ∧ WFL (shlLimbs v cin) ∧ (shlLimbs v cin).length = v.length := by
  induction v generalizing cin with
  | nil => exact ⟨by simp [shlLimbs, valL, outBit], WFL_nil, rfl⟩
  | cons x xs ih =>
    obtain ⟨hx, hxs⟩ := WFL_cons.mp hw
    obtain ⟨hd, hm, hq⟩ := shl_limb x hx
    obtain ⟨h1, h2, h3⟩ := ih (x / 9223372036854775808) hxs hq
    refine ⟨?_, WFL_cons.mpr ⟨by omega, h2⟩, congrArg (· + 1) h3⟩
    rw [shlLimbs, valL, valL, outBit, List.length_cons, pow_succ', Nat.mul_assoc, Nat.add_assoc,
      ← Nat.mul_add, h1, Nat.mul_add 2 x, ← hd]
    ring

theorem outBit_last (v : List Nat) (cin : Nat) (l : Nat) (h : v.getLast? = some l) :
    outBit v cin = l / 9223372036854775808 := by
  obtain ⟨ys, rfl⟩ := List.getLast?_eq_some_iff.mp h
  clear h
  induction ys generalizing cin with
  | nil => rfl
  | cons y ys ih => exact ih _

theorem lshift_spec (a : BigUint) (ha : a.WF) (hne : a.limbs ≠ []) :
    ∃ r, a.lshift = .ok r ∧ val r = 2 * val a ∧ r.WF ∧ r.limbs ≠ [] := by
  fun_cases lshift a with
  | case1 n h =>
    exact ⟨_, rfl, Nat.mul_comm n 2, show n * 2 < 18446744073709551616 by omega, List.cons_ne_nil _ _⟩
  | case2 n h =>
    obtain ⟨hd, hm, hq⟩ := shl_limb n ha
    refine ⟨_, rfl, ?_, ?_, List.cons_ne_nil _ _⟩
    · show _ + B * (_ + B * 0) = _
      rw [Nat.mul_zero, Nat.add_zero]; exact hd
    · exact WFL_cons.mpr ⟨Nat.mod_lt _ B_pos, WFL_cons.mpr ⟨Nat.lt_of_le_of_lt hq (by decide), WFL_nil⟩⟩
  | case3 v hl => exact absurd (List.getLast?_eq_none_iff.mp hl) hne
  | case4 v l hl w =>
    have hw : WFL v := ha
    have hlB : l < 18446744073709551616 := hw l (List.mem_of_getLast? hl)
    -- either way the vector handed to `shlLimbs` has a clear top bit, so nothing is shifted out
    have ⟨hwv, hval, hout, hwn⟩ : WFL w ∧ valL w = valL v ∧ outBit w 0 = 0 ∧ w ≠ [] := by
      unfold w
      split
      · exact ⟨WFL_append_zeros v 1 hw, valL_append_zeros v 1,
          by rw [outBit_last _ 0 0 List.getLast?_concat], by simp⟩
      · exact ⟨hw, rfl, by rw [outBit_last v 0 l hl]; omega, hne⟩
    obtain ⟨h1, h2, h3⟩ := shlLimbs_spec w 0 hwv (Nat.zero_le 1)
    refine ⟨_, rfl, ?_, h2, ?_⟩
    · rwa [hout, Nat.mul_zero, Nat.add_zero, Nat.add_zero, hval] at h1
    · rw [limbs, ← List.length_pos_iff, h3]; exact List.length_pos_iff.mpr hwn

theorem half_add (T x W : Nat) : x / 2 + W % 2 * T + 2 * T * (W / 2) = (x + 2 * T * W) / 2 := by
  rw [Nat.mul_assoc 2 T W, Nat.add_mul_div_left _ _ (by decide : 0 < 2)]
  conv_rhs => rw [← Nat.div_add_mod W 2]
  ring

theorem shrLimbs_spec (v : List Nat) (hw : WFL v) :
    valL (shrLimbs v) = valL v / 2 ∧ WFL (shrLimbs v) := by
  fun_induction shrLimbs v with
  | case1 => exact ⟨rfl, WFL_nil⟩
  | case2 x =>
    exact ⟨by simp [valL], WFL_cons.mpr ⟨Nat.lt_of_le_of_lt (Nat.div_le_self x 2) (WFL_cons.mp hw).1, WFL_nil⟩⟩
  | case3 x y ys ih =>
    obtain ⟨hx, hxs⟩ := WFL_cons.mp hw
    obtain ⟨h1, h2⟩ := ih hxs
    refine ⟨?_, WFL_cons.mpr ⟨by simp only [B] at hx ⊢; omega, h2⟩⟩
    show x / 2 + y % 2 * 9223372036854775808 + B * valL (shrLimbs (y :: ys)) = (x + B * valL (y :: ys)) / 2
    -- `B` is even, so the low bit of the next limb is the low bit of everything above `x`
    rw [h1, show y % 2 = valL (y :: ys) % 2 by rw [valL, B_two, Nat.mul_assoc, Nat.add_mul_mod_self_left]]
    exact half_add 9223372036854775808 x _

theorem rshift_val (a : BigUint) (ha : a.WF) : val a.rshift = val a / 2 ∧ a.rshift.WF := by
  cases a with
  | small n => exact ⟨rfl, Nat.lt_of_le_of_lt (Nat.div_le_self n 2) ha⟩
  | large v => exact shrLimbs_spec v ha

theorem lshiftTimes_val (k : Nat) (a : BigUint) (ha : a.WF) (hne : a.limbs ≠ []) :
    ∃ r, lshiftTimes k a = .ok r ∧ val r = 2 ^ k * val a ∧ r.WF := by
  induction k generalizing a with
  | zero => exact ⟨a, rfl, by simp, ha⟩
  | succ k ih =>
    obtain ⟨y, hy, hv, hw, hyne⟩ := lshift_spec a ha hne
    obtain ⟨r, hr, hrv, hrw⟩ := ih y hw hyne
    refine ⟨r, by simp [lshiftTimes, hy, hr], ?_, hrw⟩
    rw [hrv, hv, pow_succ]; ring

theorem rshiftTimes_val (k : Nat) (a : BigUint) (ha : a.WF) :
    val (rshiftTimes k a) = val a / 2 ^ k ∧ (rshiftTimes k a).WF := by
  fun_induction rshiftTimes k a with
  | case1 a => exact ⟨(Nat.div_one _).symm, ha⟩
  | case2 k a hz => exact ⟨by rw [(isZero_iff a).mp hz, Nat.zero_div], ha⟩
  | case3 k a hz ih =>
    obtain ⟨hv, hw⟩ := rshift_val a ha
    rw [pow_succ', ← Nat.div_div_eq_div_mul, ← hv]
    exact ih hw

theorem lshiftN_val (a rhs : BigUint) (ha : a.WF) (hne : a.limbs ≠ []) (hf : rhs.fitsU64 = true) :
    ∃ r, lshiftN a rhs = .ok r ∧ val r = val a * 2 ^ val rhs ∧ r.WF := by
  rw [lshiftN, tryAsUsize_of_fits rhs hf, ok_bind]
  split
  · rw [show (makeLarge a).limbs = a.limbs by cases a <;> rfl]
    obtain ⟨r, hr, hv, hrw⟩ := lshiftTimes_val (val rhs % 64) (shiftLimbs a (val rhs / 64))
      (WF_shiftLimbs a _ ha) (by rw [limbs_shiftLimbs]; exact fun h => hne (List.append_eq_nil_iff.mp h).2)
    refine ⟨r, hr, ?_, hrw⟩
    rw [hv, val_shiftLimbs, B_pow_eq, ← Nat.mul_assoc, ← pow_add, Nat.mod_add_div, Nat.mul_comm]
  · obtain ⟨r, hr, hv, hrw⟩ := lshiftTimes_val (val rhs) a ha hne
    exact ⟨r, hr, by rw [hv, Nat.mul_comm], hrw⟩

theorem rshiftN_val (a rhs : BigUint) (ha : a.WF) (hf : rhs.fitsU64 = true) :
    ∃ r, rshiftN a rhs = .ok r ∧ val r = val a / 2 ^ val rhs ∧ r.WF := by
  obtain ⟨hv, hw⟩ := rshiftTimes_val (val rhs) a ha
  exact ⟨_, by simp only [rshiftN, tryAsUsize_of_fits rhs hf]; rfl, hv, hw⟩

end Fend.BigUint
