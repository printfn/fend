/-
The string-literal lexer `go` on canonically escaped text: one step per source character (`go_escaped`: a character that needs a
backslash is read back through `simple`), hence the round trip `go_canon`; the escaped text is at least as long as its source.
-/
import FendModel.Model.StrLit
import FendModel.Proofs.Json

namespace Fend.StrLit

theorem go_escaped (term : Nat) (ht : term = 34 ∨ term = 39) (c : Nat) (s rest acc : List Nat) (fuel : Nat) :
    go term (fuel + 1) (escapeCanon term (c :: s) ++ rest) false acc
      = go term fuel (escapeCanon term s ++ rest) false (c :: acc) := by
  have h92 : (92 : Nat) ≠ term := by rcases ht with rfl | rfl <;> decide
  simp only [escapeCanon, List.flatMap_cons, List.append_assoc]
  split
  · next h =>
    have hs : simple c = some c := by
      rcases h with rfl | rfl
      · rcases ht with rfl | rfl <;> rfl
      · rfl
    rw [go.eq_def]
    simp [h92, hs]
  · next h =>
    rw [go.eq_def]
    simp [not_or.1 h]

theorem go_canon (term : Nat) (ht : term = 34 ∨ term = 39) (s rest acc : List Nat) (fuel : Nat)
    (hf : s.length + 1 ≤ fuel) :
    go term fuel (escapeCanon term s ++ term :: rest) false acc = .ok (acc.reverse ++ s, rest) := by
  induction fuel generalizing s acc with
  | zero => omega
  | succ f ih =>
    cases s with
    | nil =>
      rw [go.eq_def]
      simp [escapeCanon]
    | cons c s =>
      rw [go_escaped term ht, ih s (c :: acc) (Nat.le_of_succ_le_succ hf)]
      simp

theorem escapeCanon_length (term : Nat) (s : List Nat) : s.length ≤ (escapeCanon term s).length :=
  Json.length_le_flatMap _ (fun c => by split <;> simp) s

end Fend.StrLit
