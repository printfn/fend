/-
and / or / xor commute with `/ 2^n` and `% 2^n` (`LimbOp`), hence act limb by limb; one induction (`zip_val`)
over that serves all three, for limb vectors of any two lengths.
-/
import FendModel.Proofs.BigUintLimbs

namespace Fend
namespace BigUint

structure LimbOp (f : Nat → Nat → Nat) : Prop where
  divp : ∀ a b n, f a b / 2 ^ n = f (a / 2 ^ n) (b / 2 ^ n)
  modp : ∀ a b n, f a b % 2 ^ n = f (a % 2 ^ n) (b % 2 ^ n)
  zero : f 0 0 = 0

theorem and_op : LimbOp (· &&& ·) := ⟨fun _ _ _ => Nat.and_div_two_pow, fun _ _ _ => Nat.and_mod_two_pow, by simp⟩
theorem or_op : LimbOp (· ||| ·) := ⟨fun _ _ _ => Nat.or_div_two_pow, fun _ _ _ => Nat.or_mod_two_pow, by simp⟩
theorem xor_op : LimbOp (· ^^^ ·) := ⟨fun _ _ _ => Nat.xor_div_two_pow, fun _ _ _ => Nat.xor_mod_two_pow, by simp⟩

theorem limb_split (f : Nat → Nat → Nat) (hf : LimbOp f) (x y X Y : Nat) (hx : x < B) (hy : y < B) :
    f (x + B * X) (y + B * Y) = f x y + B * f X Y := by
  rw [← Nat.mod_add_div (f (x + B * X) (y + B * Y)) B]
  congr 2
  · rw [B_pow, hf.modp, ← B_pow, add_mul_mod_B x X hx, add_mul_mod_B y Y hy]
  · rw [B_pow, hf.divp, ← B_pow, add_mul_div_B x X hx, add_mul_div_B y Y hy]

theorem limb_split_small (f : Nat → Nat → Nat) (hf : LimbOp f) (x y X : Nat) (hx : x < B) (hy : y < B) :
    f (x + B * X) y = f x y + B * f X 0 :=
  limb_split f hf x y X 0 hx hy

theorem cons_mod (b V P : Nat) (hb : b < B) : (b + B * V) % (B * P) = b + B * (V % P) := by
  rw [Nat.mod_mul, add_mul_mod_B b V hb, add_mul_div_B b V hb]

/-- `zipLimbs f v w` has the length of `v`: it is `f` of `v` and of `w` cut to that length -/
theorem zip_val (f : Nat → Nat → Nat) (hf : LimbOp f) (v w : List Nat) (hv : WFL v) (hw : WFL w) :
    valL (zipLimbs f v w) = f (valL v) (valL w % B ^ v.length) := by
  fun_induction zipLimbs f v w with
  | case1 w => simp [valL, Nat.mod_one, hf.zero]
  | case2 a as ih =>
    obtain ⟨ha, has⟩ := WFL_cons.mp hv
    have := limb_split f hf a 0 (valL as) 0 ha B_pos
    rw [valL.eq_2, ih has WFL_nil]
    simpa [valL] using this.symm
  | case3 a as b bs ih =>
    obtain ⟨ha, has⟩ := WFL_cons.mp hv
    obtain ⟨hb, hbs⟩ := WFL_cons.mp hw
    rw [valL.eq_2, ih has hbs, valL.eq_2, valL.eq_2, List.length_cons, pow_succ',
      cons_mod _ _ _ hb, limb_split f hf a b _ _ ha hb]

/-- `or` / `xor`: both keep the other operand's high limbs (`f a 0 = a`) -/
theorem orXor_val (f : Nat → Nat → Nat) (hf : LimbOp f) (hcomm : ∀ a b, f a b = f b a) (hz : ∀ a, f a 0 = a)
    (a b r : BigUint) (ha : a.WF) (hb : b.WF) (h : orXor f a b = .ok r) : val r = f (val a) (val b) := by
  fun_cases orXor f a b with
  | case1 x y => cases h; rfl
  | case2 y => cases h
  | case3 y x xs =>
    cases h
    show f x y + B * valL xs = f (x + B * valL xs) y
    rw [limb_split_small f hf x y _ (WFL_cons.mp ha).1 hb, hz]
  | case4 x => cases h
  | case5 x y ys =>
    cases h
    show f y x + B * valL ys = f x (y + B * valL ys)
    rw [hcomm x, limb_split_small f hf y x _ (WFL_cons.mp hb).1 ha, hz]
  | case6 v w _ =>
    cases h
    -- the left operand is padded to the length of the right, so nothing of `w` is cut off
    rw [pad_zeros, val, zip_val f hf _ w (WFL_append_zeros v _ ha) hb, valL_append_zeros,
      Nat.mod_eq_of_lt (Nat.lt_of_lt_of_le (valL_lt w hb) (Nat.pow_le_pow_right B_pos (le_length_pad v _)))]
    rfl

theorem and_mod_two_pow_of_lt (x y n : Nat) (hx : x < 2 ^ n) : x &&& y % 2 ^ n = x &&& y := by
  rw [← Nat.mod_eq_of_lt (Nat.lt_of_le_of_lt Nat.and_le_left hx : x &&& y < 2 ^ n), Nat.and_mod_two_pow,
    Nat.mod_eq_of_lt hx]

theorem and_val (a b r : BigUint) (ha : a.WF) (hb : b.WF) (h : bitwiseAnd a b = .ok r) : val r = val a &&& val b := by
  fun_cases bitwiseAnd a b with
  | case1 x y => cases h; rfl
  | case2 v y =>
    cases v with
    | nil => cases h
    | cons x xs =>
      cases h
      show x &&& y = (x + B * valL xs) &&& y
      rw [limb_split_small _ and_op x y _ (WFL_cons.mp ha).1 hb, Nat.and_zero, Nat.mul_zero, Nat.add_zero]
  | case3 x w =>
    cases w with
    | nil => cases h
    | cons y ys =>
      cases h
      show x &&& y = x &&& (y + B * valL ys)
      rw [Nat.and_comm x, Nat.and_comm x, limb_split_small _ and_op y x _ (WFL_cons.mp hb).1 ha,
        Nat.and_zero, Nat.mul_zero, Nat.add_zero]
  | case4 v w =>
    cases h
    -- the result has the length of `w`, so `v` is cut there (`zip_val`); harmless under `&&&`, as `valL w < B ^ w.length`
    have hlt := valL_lt w hb
    rw [B_pow_eq] at hlt
    rw [val, zip_val _ and_op w v hb ha, B_pow_eq, and_mod_two_pow_of_lt _ _ _ hlt, Nat.and_comm]
    rfl

theorem or_val (a b r : BigUint) (ha : a.WF) (hb : b.WF) (h : bitwiseOr a b = .ok r) : val r = val a ||| val b :=
  orXor_val (· ||| ·) or_op (fun a b => Nat.or_comm a b) (fun a => Nat.or_zero a) a b r ha hb h

theorem xor_val (a b r : BigUint) (ha : a.WF) (hb : b.WF) (h : bitwiseXor a b = .ok r) : val r = val a ^^^ val b :=
  orXor_val (· ^^^ ·) xor_op (fun a b => Nat.xor_comm a b) (fun a => Nat.xor_zero a) a b r ha hb h

end BigUint
end Fend
