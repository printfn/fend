/-
`valQ x` is the rational a `BigRat` denotes. `mul`, `negate` and the swap of numerator and denominator are exact on
`valQ` for every representation, even a zero denominator (`x / 0 = 0` in `Rat`). Everything else is proved with `Rep x q` (limbs below 2^64, non-zero denominator, denotes `q`): one lemma per operation
takes representatives to a representative of the result in `Rat`, for unreduced fractions, any signs, any denominators.
(Where a property statement spells the three parts out — `WFQ x`, `val x.den ≠ 0`, `valQ r = …` — the lemma under it does
too: `simplify_int`, `roundWith_val`.)
-/
import FendModel.Model.BigRat
import FendModel.Proofs.BigUintAddMul
import FendModel.Proofs.BigUintDivmod
import FendModel.Proofs.Refines
import Mathlib.Tactic.Ring
import Mathlib.Data.Rat.Defs
import Mathlib.Algebra.Order.Ring.Rat

namespace Fend
namespace BigRat
open BigUint

def valQ (x : BigRat) : Rat := (if x.neg then -1 else 1) * ((val x.num : Nat) : Rat) / ((val x.den : Nat) : Rat)

def sgn (s : Bool) : Rat := if s then -1 else 1

theorem sgn_false : sgn false = 1 := rfl
theorem sgn_true : sgn true = -1 := rfl
theorem sgn_bne (s t : Bool) : sgn (s != t) = sgn s * sgn t := by cases s <;> cases t <;> simp [sgn]
theorem sgn_not (s : Bool) : sgn (!s) = - sgn s := by cases s <;> simp [sgn]
theorem sgn_inv (s : Bool) : (sgn s)⁻¹ = sgn s := by cases s <;> simp [sgn]
theorem sgn_ne_zero (s : Bool) : sgn s ≠ 0 := by cases s <;> simp [sgn]

theorem valQ_eq (x : BigRat) : valQ x = sgn x.neg * ((val x.num : Nat) / (val x.den : Nat)) := mul_div_assoc _ _ _

theorem mul_valQ (a b : BigRat) : valQ (mul a b) = valQ a * valQ b := by
  simp only [valQ_eq, mul, signOfProduct, mul_val, Nat.cast_mul, sgn_bne]
  ring

theorem negate_valQ (a : BigRat) : valQ (negate a) = - valQ a := by
  simp only [valQ_eq, negate, sgn_not, neg_mul]

theorem valQ_swap (b : BigRat) : valQ ⟨b.neg, b.den, b.num⟩ = (valQ b)⁻¹ := by
  simp only [valQ_eq, mul_inv, sgn_inv, inv_div]

theorem valQ_eq_zero_iff (b : BigRat) (db : val b.den ≠ 0) : valQ b = 0 ↔ val b.num = 0 := by
  simp [valQ_eq, sgn_ne_zero, db]

theorem valQ_ofUint (a : BigUint) : valQ (ofUint a) = (val a : Nat) := by
  rw [valQ_eq]; show sgn false * (((val a : Nat) : Rat) / ((1 : Nat) : Rat)) = _
  rw [sgn_false, Nat.cast_one, div_one, one_mul]

theorem valQ_ofNat64 (n : Nat) : valQ (ofNat64 n) = n := valQ_ofUint (small n)

theorem numIsZero_eq (b : BigRat) (hw : b.num.WF) : numIsZero b = decide (val b.num = 0) :=
  beq_eq _ _ hw zero_WF

theorem denIsOne_eq (x : BigRat) (hw : x.den.WF) : denIsOne x = decide (val x.den = 1) := beq_eq _ _ hw one_WF

theorem div_eq (a b : BigRat) :
    div a b = if numIsZero b then .error .divideByZero else .ok (mul a ⟨b.neg, b.den, b.num⟩) := rfl

def WFQ (x : BigRat) : Prop := x.num.WF ∧ x.den.WF

theorem negate_WFQ (a : BigRat) (h : WFQ a) : WFQ (negate a) := h

end BigRat

namespace Cx
open BigRat BigUint

/-- `Rep` without the value: what `Exact<Complex>` may assume of each rational part of an operand -/
def OKQ (a : BigRat) : Prop := WFQ a ∧ val a.den ≠ 0

end Cx

namespace BigRat
open BigUint

/-- Proofs build a `Rep` with `Rep.mk`, `Rep.of_wfq` or `OKQ.rep` and read it through the projections below.  It is a plain
conjunction, in the order in which the statements of `Props/C01` list their conclusions, so that `Rep r q` unfolds to them.
Trap: inside `namespace Rep` the names `mul`, `add`, `div`, `negate`, `cmp` … are these lemmas; the operations are written
`BigRat.mul` … there (likewise `Cx.add` … inside `Cx.Rep`). -/
def Rep (x : BigRat) (q : Rat) : Prop := valQ x = q ∧ WFQ x ∧ val x.den ≠ 0

namespace Rep
variable {a : BigRat} {p : Rat}

theorem mk (hv : valQ a = p) (hn : a.num.WF) (hd : a.den.WF) (h0 : val a.den ≠ 0) : Rep a p := ⟨hv, ⟨hn, hd⟩, h0⟩

theorem of_wfq (w : WFQ a) (h0 : val a.den ≠ 0) : Rep a (valQ a) := ⟨rfl, w, h0⟩

theorem val_eq (h : Rep a p) : valQ a = p := h.1
theorem okq (h : Rep a p) : Cx.OKQ a := h.2
theorem wfq (h : Rep a p) : WFQ a := h.2.1
theorem num_wf (h : Rep a p) : a.num.WF := h.2.1.1
theorem den_wf (h : Rep a p) : a.den.WF := h.2.1.2
theorem den_ne (h : Rep a p) : val a.den ≠ 0 := h.2.2

end Rep

theorem _root_.Fend.Cx.OKQ.rep {a : BigRat} (h : Cx.OKQ a) : Rep a (valQ a) := ⟨rfl, h⟩

theorem rep_ofUint {a : BigUint} (ha : a.WF) : Rep (ofUint a) (val a : Nat) :=
  .mk (valQ_ofUint a) ha one_WF Nat.one_ne_zero

theorem rep_ofNat64 {n : Nat} (h : n < B) : Rep (ofNat64 n) n := rep_ofUint (a := small n) h

theorem rep_zero : Rep (ofNat64 0) 0 := Nat.cast_zero (R := Rat) ▸ rep_ofNat64 B_pos
theorem rep_one : Rep (ofNat64 1) 1 := Nat.cast_one (R := Rat) ▸ rep_ofNat64 one_WF

namespace Rep
variable {a b : BigRat} {p q : Rat}

theorem cast (h : Rep a p) (e : p = q) : Rep a q := e ▸ h

theorem negate (h : Rep a p) : Rep (negate a) (-p) := .mk (by rw [negate_valQ, h.val_eq]) h.num_wf h.den_wf h.den_ne

theorem mul (ha : Rep a p) (hb : Rep b q) : Rep (mul a b) (p * q) :=
  .mk (by rw [mul_valQ, ha.val_eq, hb.val_eq]) (mul_WF _ _ ha.num_wf hb.num_wf) (mul_WF _ _ ha.den_wf hb.den_wf)
    ((mul_val a.den b.den).trans_ne (Nat.mul_ne_zero ha.den_ne hb.den_ne))

theorem num_eq_zero_iff (h : Rep b q) : val b.num = 0 ↔ q = 0 := by rw [← valQ_eq_zero_iff b h.den_ne, h.val_eq]

theorem numIsZero_iff (h : Rep b q) : numIsZero b = true ↔ q = 0 := by
  rw [numIsZero_eq b h.num_wf, decide_eq_true_eq, h.num_eq_zero_iff]

theorem swap (h : Rep b q) (hq : q ≠ 0) : Rep ⟨b.neg, b.den, b.num⟩ q⁻¹ :=
  .mk (by rw [valQ_swap b, h.val_eq]) h.den_wf h.num_wf (mt h.num_eq_zero_iff.mp hq)

theorem div_zero (a : BigRat) (hb : Rep b 0) : div a b = .error .divideByZero := by
  rw [div_eq, if_pos (hb.numIsZero_iff.mpr rfl)]

theorem div_of_ne (ha : Rep a p) (hb : Rep b q) (hq : q ≠ 0) : ∃ r, div a b = .ok r ∧ Rep r (p / q) :=
  ⟨_, by rw [div_eq, if_neg (mt hb.numIsZero_iff.mp hq)], ha.mul (hb.swap hq)⟩

theorem div (ha : Rep a p) (hb : Rep b q) : Refines Rep (div a b) (if q = 0 then none else some (p / q)) := by
  split_ifs with hq
  · exact (hb.cast hq).div_zero a
  · exact ha.div_of_ne hb hq

/-- serves the common denominator of `add` (`k` the other denominator, `g` the gcd) and `simplify` (`k = 1`) -/
theorem rescale {s : Bool} {n d n' d' : BigUint} {g k : Nat} (h : Rep ⟨s, n, d⟩ q) (hk : k ≠ 0)
    (hn : val n' * g = val n * k) (hd : val d' * g = val d * k) (wn : n'.WF) (wd : d'.WF) : Rep ⟨s, n', d'⟩ q := by
  have hd0 : val d' * g ≠ 0 := hd ▸ Nat.mul_ne_zero h.den_ne hk
  have hg : (g : Rat) ≠ 0 := Nat.cast_ne_zero.mpr (Nat.mul_ne_zero_iff.mp hd0).2
  have hk' : (k : Rat) ≠ 0 := Nat.cast_ne_zero.mpr hk
  refine .mk ?_ wn wd (Nat.mul_ne_zero_iff.mp hd0).1
  rw [← h.val_eq, valQ_eq, valQ_eq, ← mul_div_mul_right _ _ hg, ← Nat.cast_mul, ← Nat.cast_mul, hn, hd,
    Nat.cast_mul, Nat.cast_mul, mul_div_mul_right _ _ hk']

end Rep

/-- the common tail of both branches of `add_internal`: numerators `x`, `y` over the denominator `nd` -/
def addTail (bneg : Bool) (x y nd : BigUint) : R BigRat :=
  if bneg && BigUint.blt x y then do
    let n ← BigUint.sub y x
    .ok ⟨true, n, nd⟩
  else do
    let n ← if !bneg then .ok (BigUint.add x y) else BigUint.sub x y
    .ok ⟨false, n, nd⟩

theorem addPos_eq (a b : BigRat) :
    addPos a b =
      if BigUint.beq a.den b.den then addTail b.neg a.num b.num a.den
      else (do
        let g ← BigUint.gcd a.den b.den
        let nd ← BigUint.div (BigUint.mul a.den b.den) g
        let x ← BigUint.div (BigUint.mul a.num b.den) g
        let y ← BigUint.div (BigUint.mul b.num a.den) g
        addTail b.neg x y nd) := by
  unfold addPos addTail; rfl

theorem addTail_rep {s : Bool} {x y nd : BigUint} {p q : Rat} (hx : Rep ⟨false, x, nd⟩ p) (hy : Rep ⟨s, y, nd⟩ q) :
    ∃ r, addTail s x y nd = .ok r ∧ Rep r (p + q) := by
  have wx : x.WF := hx.num_wf
  have wy : y.WF := hy.num_wf
  obtain rfl := hx.val_eq
  obtain rfl := hy.val_eq
  unfold addTail
  cases s with
  | false =>
    refine ⟨⟨false, BigUint.add x y, nd⟩, rfl, .mk ?_ (add_WF x y wx wy) hx.den_wf hx.den_ne⟩
    simp only [valQ_eq, add_val, Nat.cast_add, sgn_false]; ring
  | true =>
    by_cases hlt : val x < val y
    · obtain ⟨n, hn, hnv, hnw⟩ := sub_val y x wy wx hlt.le
      refine ⟨⟨true, n, nd⟩, by rw [blt_eq x y wx wy, decide_eq_true hlt, hn]; rfl, .mk ?_ hnw hx.den_wf hx.den_ne⟩
      simp only [valQ_eq, hnv, Nat.cast_sub hlt.le, sgn_false, sgn_true]; ring
    · obtain ⟨n, hn, hnv, hnw⟩ := sub_val x y wx wy (Nat.le_of_not_lt hlt)
      refine ⟨⟨false, n, nd⟩, by rw [blt_eq x y wx wy, decide_eq_false hlt, hn]; rfl, .mk ?_ hnw hx.den_wf hx.den_ne⟩
      simp only [valQ_eq, hnv, Nat.cast_sub (Nat.le_of_not_lt hlt), sgn_false, sgn_true]; ring

theorem addPos_rep {a b : BigRat} {p q : Rat} (han : a.neg = false) (ha : Rep a p) (hb : Rep b q) :
    ∃ r, addPos a b = .ok r ∧ Rep r (p + q) := by
  have ha' : Rep ⟨false, a.num, a.den⟩ p := han ▸ ha
  have wad : a.den.WF := ha.den_wf
  have wbd : b.den.WF := hb.den_wf
  rw [addPos_eq, beq_eq a.den b.den wad wbd]
  by_cases hd : val a.den = val b.den
  · rw [decide_eq_true hd, if_pos rfl]
    exact addTail_rep ha' (.mk (by rw [← hb.val_eq, valQ_eq, valQ_eq, hd]) hb.num_wf wad ha.den_ne)
  · rw [decide_eq_false hd, if_neg Bool.false_ne_true]
    obtain ⟨g, hg, hgv, hgw⟩ := gcd_val a.den b.den wad wbd
    have hGa : val g ∣ val a.den := hgv ▸ Nat.gcd_dvd_left _ _
    have hGb : val g ∣ val b.den := hgv ▸ Nat.gcd_dvd_right _ _
    have hG0 : val g ≠ 0 := fun h => ha.den_ne (Nat.eq_zero_of_zero_dvd (h ▸ hGa))
    obtain ⟨nd, hnd, hndv, hndw⟩ := div_val (BigUint.mul a.den b.den) g (mul_WF _ _ wad wbd) hgw hG0
    obtain ⟨x, hx, hxv, hxw⟩ := div_val (BigUint.mul a.num b.den) g (mul_WF _ _ ha.num_wf wbd) hgw hG0
    obtain ⟨y, hy, hyv, hyw⟩ := div_val (BigUint.mul b.num a.den) g (mul_WF _ _ hb.num_wf wad) hgw hG0
    rw [mul_val] at hndv hxv hyv
    have e1 : val nd * val g = val a.den * val b.den := hndv ▸ Nat.div_mul_cancel (hGa.mul_right _)
    have e2 : val x * val g = val a.num * val b.den := hxv ▸ Nat.div_mul_cancel (hGb.mul_left _)
    have e3 : val y * val g = val b.num * val a.den := hyv ▸ Nat.div_mul_cancel (hGa.mul_left _)
    -- both operands over `nd = a.den * b.den / g`
    have hp : Rep ⟨false, x, nd⟩ p := ha'.rescale hb.den_ne e2 e1 hxw hndw
    have hq : Rep ⟨b.neg, y, nd⟩ q := hb.rescale ha.den_ne e3 (e1.trans (Nat.mul_comm _ _)) hyw hndw
    obtain ⟨r, hr, h⟩ := addTail_rep hp hq
    exact ⟨r, by simp only [hg, hnd, hx, hy, ok_bind]; exact hr, h⟩

namespace Rep
variable {a b : BigRat} {p q : Rat}

/-- `a + b` for every sign of `a`: `a + b = -((-a) + (-b))` when `a` is negative -/
theorem add (ha : Rep a p) (hb : Rep b q) : ∃ r, add a b = .ok r ∧ Rep r (p + q) := by
  unfold BigRat.add
  cases han : a.neg with
  | false => exact addPos_rep han ha hb
  | true =>
    obtain ⟨r, hr, h⟩ := addPos_rep (by simp [BigRat.negate, han]) ha.negate hb.negate
    exact ⟨BigRat.negate r, by simp only [if_true, hr, ok_bind], h.negate.cast (by ring)⟩

theorem sub (ha : Rep a p) (hb : Rep b q) : ∃ r, sub a b = .ok r ∧ Rep r (p - q) :=
  sub_eq_add_neg p q ▸ ha.add hb.negate

theorem simplify {x : BigRat} (h : Rep x q) :
    ∃ r, simplify x = .ok r ∧ Rep r q ∧ r.neg = x.neg ∧
      val r.num = val x.num / Nat.gcd (val x.num) (val x.den) ∧
      val r.den = val x.den / Nat.gcd (val x.num) (val x.den) := by
  have wn : x.num.WF := h.num_wf
  have wd : x.den.WF := h.den_wf
  rw [BigRat.simplify, denIsOne_eq x wd]
  by_cases hd : val x.den = 1
  · rw [decide_eq_true hd, if_pos rfl, hd, Nat.gcd_one_right, Nat.div_one, Nat.div_one]
    exact ⟨x, rfl, h, rfl, rfl, hd⟩
  · rw [decide_eq_false hd, if_neg Bool.false_ne_true]
    obtain ⟨g, hg, hgv, hgw⟩ := gcd_val x.num x.den wn wd
    have hG0 : val g ≠ 0 := hgv ▸ fun h0 => h.den_ne (Nat.eq_zero_of_gcd_eq_zero_right h0)
    obtain ⟨n, hn, hnv, hnw⟩ := div_val x.num g wn hgw hG0
    obtain ⟨d, hd, hdv, hdw⟩ := div_val x.den g wd hgw hG0
    have e1 : val n * val g = val x.num * 1 := by
      rw [hnv, Nat.mul_one]; exact Nat.div_mul_cancel (hgv ▸ Nat.gcd_dvd_left _ _)
    have e2 : val d * val g = val x.den * 1 := by
      rw [hdv, Nat.mul_one]; exact Nat.div_mul_cancel (hgv ▸ Nat.gcd_dvd_right _ _)
    exact ⟨⟨x.neg, n, d⟩, by simp only [hg, hn, hd, ok_bind], h.rescale one_ne_zero e1 e2 hnw hdw, rfl,
      hgv ▸ hnv, hgv ▸ hdv⟩

theorem neg_eq (h : Rep a p) (hp : p ≠ 0) : a.neg = decide (p < 0) := by
  have hn : val a.num ≠ 0 := mt h.num_eq_zero_iff.mp hp
  have hpos : (0 : Rat) < (val a.num : Nat) / (val a.den : Nat) :=
    div_pos (by exact_mod_cast Nat.pos_of_ne_zero hn) (by exact_mod_cast Nat.pos_of_ne_zero h.den_ne)
  rw [← h.val_eq, valQ_eq]
  cases a.neg
  · rw [sgn_false, one_mul, decide_eq_false hpos.not_gt]
  · rw [sgn_true, neg_one_mul, decide_eq_true (neg_neg_of_pos hpos)]

/-- `Ord for BigRat` (the sign of `self - other`) is the order of the denoted rationals, and never the `unwrap` panic -/
theorem cmp (ha : Rep a p) (hb : Rep b q) : cmp a b = some (compare p q) := by
  obtain ⟨d, hd, h⟩ := ha.sub hb
  have hz : BigUint.beq d.num (small 0) = true ↔ p - q = 0 := h.numIsZero_iff
  simp only [BigRat.cmp, show BigRat.add a (BigRat.negate b) = .ok d from hd]
  refine congrArg some ?_
  rcases lt_trichotomy p q with hlt | heq | hgt
  · have hne : p - q ≠ 0 := (sub_neg.mpr hlt).ne
    rw [if_neg (mt hz.mp hne), h.neg_eq hne, decide_eq_true (sub_neg.mpr hlt), compare_lt_iff_lt.mpr hlt]; rfl
  · rw [if_pos (hz.mpr (sub_eq_zero.mpr heq)), compare_eq_iff_eq.mpr heq]
  · have hne : p - q ≠ 0 := (sub_pos.mpr hgt).ne'
    rw [if_neg (mt hz.mp hne), h.neg_eq hne, decide_eq_false (sub_pos.mpr hgt).not_gt, compare_gt_iff_gt.mpr hgt]; rfl

theorem cmpD (ha : Rep a p) (hb : Rep b q) : cmpD a b = compare p q := by rw [BigRat.cmpD, ha.cmp hb]; rfl

end Rep

end BigRat
end Fend
