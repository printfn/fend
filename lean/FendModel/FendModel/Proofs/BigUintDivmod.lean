/-
Binary long division (`divmod` of `core/src/num/biguint.rs`), for every dividend and every non-zero divisor.
`DivInv a b p q r` holds once the dividend's bits at positions `≥ p` are consumed: `q` is the quotient of
`val a / 2^p` by `val b`, written from bit `p` upwards, and `r` the remainder. One bit is `long_division_step`,
a fact about numbers; the loops over bits and limbs only count `p` down to 0.  The invariant also keeps `r.limbs ≠ []`: `lshift` of an empty
limb vector is the model's panic outcome.
-/
import FendModel.Proofs.BigUintCmpSub
import FendModel.Proofs.BigUintShift
import FendModel.Proofs.Refines

namespace Fend.BigUint

theorem get_mod_two_pow (a : BigUint) (ha : a.WF) (i k : Nat) (hk : k ≤ 64) :
    a.get i % 2 ^ k = val a / 2 ^ (64 * i) % 2 ^ k := by
  rw [get_eq_div_mod a ha i, B_pow_eq, B_pow, Nat.mod_mod_of_dvd _ (pow_dvd_pow 2 hk)]

theorem limb_bit (a : BigUint) (ha : a.WF) (i j : Nat) (hj : j < 64) :
    (a.get i / 2 ^ j) % 2 = (val a / 2 ^ (64 * i + j)) % 2 := by
  rw [← Nat.mod_mul_right_div_self, ← pow_succ, get_mod_two_pow a ha i (j + 1) hj, pow_succ,
    Nat.mod_mul_right_div_self, Nat.div_div_eq_div_mul, ← pow_add]

theorem get0_mod2 (a : BigUint) (ha : a.WF) : a.get 0 % 2 = val a % 2 := by
  simpa using get_mod_two_pow a ha 0 1 (by decide)

theorem or_eq_add (x b k : Nat) (hx : x % 2 ^ k = 0) (hb : b < 2 ^ k) : x ||| b = x + b := by
  rw [← Nat.div_add_mod x (2 ^ k), hx, Nat.add_zero]
  exact (Nat.two_pow_add_eq_or_of_lt hb _).symm

/-- `divmod` shifts a dividend bit into the remainder and sets a quotient bit with `|=`: that adds,
because the value has no bits there yet (`hlow`) -/
theorem val_set_or (s : BigUint) (hs : s.WF) (i k b Q : Nat) (hk : k ≤ 64)
    (hlow : val s = 2 ^ (64 * i + k) * Q) (hb : b < 2 ^ k) :
    val (s.set i (s.get i ||| b)) = val s + b * B ^ i ∧ (s.set i (s.get i ||| b)).WF := by
  have hbB : b < 2 ^ 64 := Nat.lt_of_lt_of_le hb (Nat.pow_le_pow_right (by decide) hk)
  refine ⟨?_, WF_set s i _ hs (B_pow ▸ Nat.or_lt_two_pow (B_pow ▸ get_lt s hs i) hbB)⟩
  have hget : s.get i % 2 ^ k = 0 := by
    rw [get_mod_two_pow s hs i k hk, hlow, pow_add, Nat.mul_assoc, Nat.mul_div_cancel_left _ (Nat.two_pow_pos _),
      Nat.mul_mod_right]
  have := val_set s i (s.get i ||| b)
  rw [or_eq_add _ b k hget hb] at this ⊢
  rw [Nat.add_mul] at this
  omega

structure DivInv (a b : BigUint) (p : Nat) (q r : BigUint) : Prop where
  ex : ∃ Q, val q = 2 ^ p * Q ∧ val a / 2 ^ p = Q * val b + val r
  lt : val r < val b
  qwf : q.WF
  rwf : r.WF
  rne : r.limbs ≠ []

/-- `X` is the prefix of the dividend consumed so far, `2 * X + bit` the next one -/
theorem long_division_step (X Q b r bit : Nat) (hdiv : X = Q * b + r) (hlt : r < b) (hbit : bit < 2) :
    (b ≤ 2 * r + bit → 2 * X + bit = (2 * Q + 1) * b + (2 * r + bit - b) ∧ 2 * r + bit - b < b) ∧
    (¬ b ≤ 2 * r + bit → 2 * X + bit = 2 * Q * b + (2 * r + bit) ∧ 2 * r + bit < b) := by
  rw [hdiv, Nat.add_mul, Nat.mul_assoc, Nat.one_mul]
  omega

theorem divBit_spec (a b : BigUint) (ha : a.WF) (hb : b.WF) (i j : Nat) (hj : j < 64)
    (q r : BigUint) (inv : DivInv a b (64 * i + j + 1) q r) :
    ∃ q' r', divBit a b i j (q, r) = .ok (q', r') ∧ DivInv a b (64 * i + j) q' r' := by
  obtain ⟨⟨Q, hq, hdiv⟩, hlt, qwf, rwf, rne⟩ := inv
  obtain ⟨r1, hr1, hv1, hw1, _⟩ := lshift_spec r rwf rne
  simp only [divBit, hr1, ok_bind]
  -- the next bit of the dividend goes into the doubled remainder
  have hbit : a.get i / 2 ^ j % 2 < 2 ^ 1 := Nat.mod_lt _ (by decide)
  have hstep : val a / 2 ^ (64 * i + j) = 2 * (val a / 2 ^ (64 * i + j + 1)) + a.get i / 2 ^ j % 2 := by
    rw [limb_bit a ha i j hj, pow_succ, ← Nat.div_div_eq_div_mul]; exact (Nat.div_add_mod _ 2).symm
  obtain ⟨hv2, hw2⟩ := val_set_or r1 hw1 0 1 _ (val r) (by decide) hv1 hbit
  have hne2 := set_limbs_ne r1 0 (r1.get 0 ||| a.get i / 2 ^ j % 2)
  rw [pow_zero, Nat.mul_one, hv1] at hv2
  generalize r1.set 0 _ = r2 at hv2 hw2 hne2 ⊢
  obtain ⟨hpos, hneg⟩ := long_division_step _ Q _ _ _ hdiv hlt hbit
  rw [← hstep, ← hv2] at hpos hneg
  have hp : 2 ^ (64 * i + j + 1) = 2 ^ (64 * i + j) * 2 := pow_succ _ _
  by_cases hle : val b ≤ val r2
  · obtain ⟨r3, hr3, hv3, hw3, hne3⟩ := sub_spec r2 b hw2 hb hle
    rw [if_pos ((ble_iff b r2 hb hw2).mpr hle), hr3]
    -- the quotient has no bits below `64 i + j + 1` yet, so bit `j` of limb `i` can be or-ed in
    obtain ⟨hqv, hqw⟩ := val_set_or q qwf i (j + 1) (2 ^ j) Q hj hq
      (Nat.pow_lt_pow_right (by decide) (Nat.lt_succ_self j))
    rw [← hv3] at hpos
    refine ⟨_, r3, rfl, ⟨2 * Q + 1, ?_, (hpos hle).1⟩, (hpos hle).2, hqw, hw3, hne3 hne2⟩
    rw [hqv, hq, hp, B_pow_eq, pow_add]; ring
  · rw [if_neg (mt (ble_iff b r2 hb hw2).mp hle)]
    exact ⟨q, r2, rfl, ⟨2 * Q, by rw [hq, hp, Nat.mul_assoc], (hneg hle).1⟩, (hneg hle).2, qwf, hw2, hne2⟩

theorem divBits_spec (a b : BigUint) (ha : a.WF) (hb : b.WF) (i j : Nat) (hj : j ≤ 64)
    (q r : BigUint) (inv : DivInv a b (64 * i + j) q r) :
    ∃ q' r', divBits a b i j (q, r) = .ok (q', r') ∧ DivInv a b (64 * i) q' r' := by
  induction j generalizing q r with
  | zero => exact ⟨q, r, rfl, inv⟩
  | succ j ih =>
    obtain ⟨q1, r1, h1, inv1⟩ := divBit_spec a b ha hb i j hj q r inv
    obtain ⟨q2, r2, h2, inv2⟩ := ih (Nat.le_of_lt hj) q1 r1 inv1
    exact ⟨q2, r2, by simp only [divBits, h1]; exact h2, inv2⟩

theorem divLimbs_spec (a b : BigUint) (ha : a.WF) (hb : b.WF) (i : Nat)
    (q r : BigUint) (inv : DivInv a b (64 * i) q r) :
    ∃ q' r', divLimbs a b i (q, r) = .ok (q', r') ∧ DivInv a b 0 q' r' := by
  induction i generalizing q r with
  | zero => exact ⟨q, r, rfl, inv⟩
  | succ i ih =>
    obtain ⟨q1, r1, h1, inv1⟩ := divBits_spec a b ha hb i 64 (Nat.le_refl _) q r (Nat.mul_succ 64 i ▸ inv)
    obtain ⟨q2, r2, h2, inv2⟩ := ih q1 r1 inv1
    exact ⟨q2, r2, by simp only [divLimbs, h1]; exact h2, inv2⟩

/-- `divmod` by a non-zero divisor: Euclidean quotient and remainder, never a panic -/
theorem divmod_val (a b : BigUint) (ha : a.WF) (hb : b.WF) (hb0 : val b ≠ 0) :
    ∃ q r, divmod a b = .ok (q, r) ∧ val q = val a / val b ∧ val r = val a % val b
      ∧ q.WF ∧ r.WF := by
  have hpos := Nat.pos_of_ne_zero hb0
  unfold divmod
  split
  · rename_i x y
    rw [if_neg (show ¬ y = 0 from hb0)]
    exact ⟨_, _, rfl, rfl, rfl, Nat.lt_of_le_of_lt (Nat.div_le_self _ _) ha, Nat.lt_trans (Nat.mod_lt _ hpos) hb⟩
  · -- the early exits, read as tests on the values
    simp only [isZero_iff, beq_iff b _ hb one_WF, beq_iff b _ hb two_WF, blt_iff a b ha hb, beq_iff a b ha hb,
      val_small]
    rw [if_neg hb0]
    by_cases h1 : val b = 1
    · rw [if_pos h1]
      exact ⟨a, _, rfl, by rw [h1, Nat.div_one], by rw [h1, Nat.mod_one]; rfl, ha, zero_WF⟩
    rw [if_neg h1]
    by_cases h2 : val a = 0
    · rw [if_pos h2]
      exact ⟨_, _, rfl, by rw [h2, Nat.zero_div]; rfl, by rw [h2, Nat.zero_mod]; rfl, zero_WF, zero_WF⟩
    rw [if_neg h2]
    by_cases h3 : val a < val b
    · rw [if_pos h3]
      exact ⟨_, a, rfl, by rw [Nat.div_eq_of_lt h3]; rfl, (Nat.mod_eq_of_lt h3).symm, zero_WF, ha⟩
    rw [if_neg h3]
    by_cases h4 : val a = val b
    · rw [if_pos h4]
      exact ⟨_, _, rfl, by rw [h4, Nat.div_self hpos]; rfl, by rw [h4, Nat.mod_self]; rfl, one_WF, zero_WF⟩
    rw [if_neg h4]
    by_cases h5 : val b = 2
    · rw [if_pos h5]
      obtain ⟨hv, hw⟩ := rshift_val a ha
      exact ⟨_, _, rfl, by rw [hv, h5], by rw [h5, ← get0_mod2 a ha]; rfl, hw,
        Nat.lt_trans (Nat.mod_lt _ (by decide)) two_WF⟩
    rw [if_neg h5]
    -- the long division starts above the top limb, where the dividend prefix is 0
    have inv0 : DivInv a b (64 * a.valueLen) (small 0) (small 0) := by
      refine ⟨⟨0, rfl, ?_⟩, hpos, zero_WF, zero_WF, List.cons_ne_nil _ _⟩
      rw [← B_pow_eq, Nat.div_eq_of_lt (val_lt_pow_len a ha), Nat.zero_mul]; rfl
    obtain ⟨q, r, hqr, ⟨Q, hq, hdiv⟩, hlt, qwf, rwf, _⟩ := divLimbs_spec a b ha hb _ _ _ inv0
    rw [pow_zero, Nat.one_mul] at hq
    rw [pow_zero, Nat.div_one, ← hq, Nat.mul_comm, Nat.add_comm] at hdiv
    obtain ⟨hqv, hrv⟩ := (Nat.div_mod_unique hpos).mpr ⟨hdiv.symm, hlt⟩
    exact ⟨q, r, hqr, hqv.symm, hrv.symm, qwf, rwf⟩

theorem divmod_zero (a b : BigUint) (hb0 : val b = 0) : divmod a b = .error .divideByZero := by
  unfold divmod
  split
  · exact if_pos hb0
  · exact if_pos ((isZero_iff b).mpr hb0)

theorem rem_val (a b : BigUint) (ha : a.WF) (hb : b.WF) (hb0 : val b ≠ 0) :
    ∃ r, rem a b = .ok r ∧ val r = val a % val b ∧ r.WF := by
  obtain ⟨q, r, h, _, hr, _, hw⟩ := divmod_val a b ha hb hb0
  exact ⟨r, by rw [rem, h, ok_bind], hr, hw⟩

theorem isEven_val (a : BigUint) (ha : a.WF) : isEven a = .ok (decide (val a % 2 = 0)) := by
  obtain ⟨r, hr, hv, hw⟩ := rem_val a (small 2) ha two_WF (by show (2 : Nat) ≠ 0; decide)
  rw [isEven, hr, ok_bind]
  rw [beq_eq r (small 0) hw zero_WF, hv]; rfl

theorem div_val (a b : BigUint) (ha : a.WF) (hb : b.WF) (hb0 : val b ≠ 0) :
    ∃ q, div a b = .ok q ∧ val q = val a / val b ∧ q.WF := by
  obtain ⟨q, r, h, hq, _, hw, _⟩ := divmod_val a b ha hb hb0
  exact ⟨q, by rw [div, h, ok_bind], hq, hw⟩

theorem gcdLoop_val (fuel : Nat) (a b : BigUint) (ha : a.WF) (hb : b.WF) (hf : val b < fuel) :
    ∃ g, gcdLoop fuel a b = .ok g ∧ val g = Nat.gcd (val a) (val b) ∧ g.WF := by
  induction fuel generalizing a b with
  | zero => omega
  | succ fuel ih =>
    rw [gcdLoop]
    simp only [ble_iff _ b one_WF hb, val_small]
    by_cases h0 : val b = 0
    · rw [if_neg (by omega), h0, Nat.gcd_zero_right]
      exact ⟨a, rfl, rfl, ha⟩
    · have hpos : 1 ≤ val b := Nat.pos_of_ne_zero h0
      obtain ⟨r, hr, hrv, hrw⟩ := rem_val a b ha hb h0
      have hlt : val r < val b := hrv ▸ Nat.mod_lt _ hpos
      obtain ⟨g, hg, hgv, hgw⟩ := ih b r hb hrw (by omega)
      rw [if_pos hpos, hr]
      refine ⟨g, hg, ?_, hgw⟩
      rw [hgv, hrv, Nat.gcd_comm (val a) (val b), Nat.gcd_rec (val b) (val a), Nat.gcd_comm]

/-- `gcd` is `Nat.gcd` of the values, and the fuel `val b + 2` always suffices -/
theorem gcd_val (a b : BigUint) (ha : a.WF) (hb : b.WF) :
    ∃ g, gcd a b = .ok g ∧ val g = Nat.gcd (val a) (val b) ∧ g.WF :=
  gcdLoop_val (val b + 2) a b ha hb (by omega)

end Fend.BigUint
