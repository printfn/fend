/-
What C10 needs beyond the bignum core. The integer functions see fractions over the denominator `Small(1)`, on which
`simplify`, `apply_uint_op` and `factorial` are plain equations (`*_den1`).
-/
import FendModel.Model.IntFns
import FendModel.Proofs.BigUintAddMul
import FendModel.Proofs.BigUintDivmod
import FendModel.Proofs.BigRat
import Mathlib.Data.Nat.Factorial.Basic

namespace Fend
open BigUint

def fibSpec : Nat → Nat
  | 0 => 0
  | 1 => 1
  | n + 2 => fibSpec n + fibSpec (n + 1)

def factSpec : Nat → Nat
  | 0 => 1
  | n + 1 => (n + 1) * factSpec n

theorem factSpec_eq (n : Nat) : factSpec n = n.factorial := by
  induction n with
  | zero => rfl
  | succ n ih => rw [factSpec, ih, Nat.factorial_succ]

namespace BigUint

theorem fibLoop_spec (k : Nat) (a b : BigUint) (i : Nat) (ha : val a = fibSpec i) (hb : val b = fibSpec (i + 1)) :
    val (fibLoop k a b) = fibSpec (i + 1 + k) := by
  induction k generalizing a b i with
  | zero => exact hb
  | succ k ih =>
    rw [fibLoop, ih b (add a b) (i + 1) hb (by rw [add_val, ha, hb]; rfl)]
    congr 1; omega

theorem factLoop_spec (fuel : Nat) (self res : BigUint) (hs : self.WF) (hr : res.WF) (hf : val self < fuel) :
    ∃ r, factLoop fuel self res = .ok r ∧ val r = val res * (val self).factorial ∧ r.WF := by
  induction fuel generalizing self res with
  | zero => omega
  | succ fuel ih =>
    rw [factLoop, blt_eq _ _ one_WF hs, val_small]
    by_cases h1 : 1 < val self
    · obtain ⟨s, hsub, hv, hw⟩ := sub_val self (small 1) hs one_WF h1.le
      obtain ⟨r, hr, hrv, hrw⟩ := ih s (mul res self) hw (mul_WF _ _ hr hs) (by rw [hv, val_small]; omega)
      refine ⟨r, by simp only [h1, decide_true, if_true, hsub, hr], ?_, hrw⟩
      rw [hrv, mul_val, hv, val_small, Nat.mul_assoc, Nat.mul_factorial_pred (by omega)]
    · refine ⟨res, by simp only [h1, decide_false, Bool.false_eq_true, if_false], ?_, hr⟩
      rw [Nat.factorial_eq_one.mpr (Nat.not_lt.mp h1), Nat.mul_one]

theorem factorial_spec (n : BigUint) (hn : n.WF) :
    ∃ r, factorial n = .ok r ∧ val r = (val n).factorial ∧ r.WF := by
  obtain ⟨r, h, hv, hw⟩ := factLoop_spec (val n + 1) n (small 1) hn one_WF (by omega)
  exact ⟨r, h, by rw [hv, val_small, Nat.one_mul], hw⟩

/-- `BigUint::factorial` computes n! exactly (for every representation of n) and never fails -/
theorem factorial_val (n : BigUint) (hn : n.WF) :
    ∃ r, factorial n = .ok r ∧ val r = factSpec (val n) := by
  obtain ⟨r, h, hv, _⟩ := factorial_spec n hn
  exact ⟨r, h, by rw [hv, factSpec_eq]⟩

end BigUint

namespace IntFns

theorem romanStepValue_inv (vals : List Nat) (t n : Nat) :
    (vals.foldl romanStepValue (t, n)).1 + (vals.foldl romanStepValue (t, n)).2 = t + n := by
  induction vals generalizing t n with
  | nil => rfl
  | cons v vs ih =>
    simp only [List.foldl_cons, romanStepValue]
    rw [ih]
    have := Nat.div_mul_le_self n v
    omega

end IntFns

namespace BigRat

theorem denIsOne_den1 (neg : Bool) (d : BigUint) : denIsOne ⟨neg, d, small 1⟩ = true :=
  (by decide : BigUint.beq (small 1) (small 1) = true)

theorem simplify_den1 (neg : Bool) (d : BigUint) : simplify ⟨neg, d, small 1⟩ = .ok ⟨neg, d, small 1⟩ := by
  rw [simplify, if_pos (denIsOne_den1 neg d)]

theorem asUint_den1 (neg : Bool) (d : BigUint) (hd : d.WF) :
    asUint ⟨neg, d, small 1⟩ = if neg && val d ≠ 0 then .error .outOfRange else .ok d := by
  simp only [asUint, simplify_den1, denIsOne_den1, ok_bind, numIsZero_eq ⟨neg, d, small 1⟩ hd, decide_not, Bool.not_true,
    Bool.false_eq_true, if_false]

theorem factorial_den1 (neg : Bool) (d : BigUint) (hd : d.WF) :
    factorial ⟨neg, d, small 1⟩ =
      if neg && val d ≠ 0 then .error .outOfRange else BigUint.factorial d >>= fun f => .ok (ofUint f) := by
  rw [factorial, asUint_den1 neg d hd]
  exact ite_bind _ _ _ _

theorem factorial_nat (a : BigUint) (ha : a.WF) :
    ∃ q, factorial (ofUint a) = .ok q ∧ Rep q ((val a).factorial : Nat) := by
  obtain ⟨f, hf, hv, hw⟩ := factorial_spec a ha
  exact ⟨ofUint f, by rw [ofUint, factorial_den1 false a ha, hf]; rfl, hv ▸ rep_ofUint hw⟩

/-- what `nCr` and `nPr` share: `(n - r)!`, or the range error when `r > n` makes `n - r` negative -/
theorem factorial_sub_nat (a b : BigUint) (ha : a.WF) (hb : b.WF) :
    (val b ≤ val a → ∃ d q, add (ofUint a) (negate (ofUint b)) = .ok d ∧ factorial d = .ok q ∧
      Rep q ((val a - val b).factorial : Nat)) ∧
    (val a < val b → ∃ d, add (ofUint a) (negate (ofUint b)) = .ok d ∧ factorial d = .error .outOfRange) := by
  -- both denominators are `Small(1)`: `add_internal` takes its equal-denominator path and keeps that denominator
  have hadd : add (ofUint a) (negate (ofUint b)) = addTail true a b (small 1) := by
    show addPos (ofUint a) (negate (ofUint b)) = _
    rw [addPos_eq]; rfl
  rw [hadd, addTail, blt_eq a b ha hb]
  refine ⟨fun h => ?_, fun h => ?_⟩
  · obtain ⟨d, hd, hv, hw⟩ := sub_val a b ha hb h
    obtain ⟨q, hq, hqr⟩ := factorial_nat d hw
    exact ⟨⟨false, d, small 1⟩, q, by rw [decide_eq_false (Nat.not_lt.mpr h), hd]; rfl, hq, hv ▸ hqr⟩
  · obtain ⟨d, hd, hv, hw⟩ := sub_val b a hb ha h.le
    have hd0 : val d ≠ 0 := by omega
    exact ⟨⟨true, d, small 1⟩, by rw [decide_eq_true h, hd]; rfl, by rw [factorial_den1 true d hw]; simp [hd0]⟩

/-- the whole of `BigRat::round_with` (floor / ceil / round), not only its decision `roundMag`: the division is `divmod`,
the half-way comparison `cmp`, the increment `add` -/
theorem roundWith_val (mode : RoundMode) (x : BigRat) (wx : WFQ x) (dx : val x.den ≠ 0) :
    ∃ n, roundWith mode x = .ok ⟨x.neg, n, small 1⟩ ∧ n.WF ∧
      val n = roundMag mode x.neg (val x.num / val x.den) (val x.num % val x.den) (val x.den) := by
  obtain ⟨q, r, hqr, hq, hr, hqw, hrw⟩ := divmod_val x.num x.den wx.1 wx.2 dx
  have hb : BigUint.beq r (small 0) = decide (val r = 0) := beq_eq r _ hrw zero_WF
  have hcmp : BigUint.cmp (BigUint.mul r (small 2)) x.den = compare (2 * val r) (val x.den) := by
    rw [cmp_val _ _ (mul_WF _ _ hrw two_WF) wx.2, mul_val, val_small, Nat.mul_comm]
  -- the decision on limb vectors is the decision of `roundMag`, test for test
  refine ⟨_, by rw [roundWith, hqr]; rfl, ?_, ?_⟩
  · split_ifs
    exacts [hqw, add_WF _ _ hqw one_WF, hqw]
  · rw [roundMag, hb, hcmp, ← hq, ← hr, apply_ite val, apply_ite val, add_val, val_small]
    simp only [decide_eq_true_eq]

end BigRat
end Fend
