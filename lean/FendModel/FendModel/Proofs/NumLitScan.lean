/-
The lexer's number scanner, run on the TEXT the renderer produces, recovers exactly the digit groups the renderer emitted.
Everything rests on one fact, `parseInteger_scan`: a rendered digit run is read back as its digits, and the scan stops at the
first character that is neither a digit nor a separator (`Ends`). Each part of a literal is that fact plus the punctuation
around the run. Characters are told apart by reading them in base 36, where `decide` runs over the whole alphabet.
-/
import FendModel.Model.NumLit
import FendModel.Proofs.Format

namespace Fend.NumLit
open Fend.Fmt

theorem digitOf_digitChar36 : ∀ d : Fin 36, digitOf (digitChar d.val) 36 = some d.val := by decide +kernel

theorem digitOf_le (c : Char) {b B : Nat} (h : b ≤ B) :
    digitOf c b = (digitOf c B).bind fun d => if d < b then some d else none := by
  simp only [digitOf]
  split
  · rename_i d _
    by_cases hd : d < b
    · simp [hd, Nat.lt_of_lt_of_le hd h]
    · by_cases hB : d < B <;> simp [hd, hB]
  · rfl

theorem digitOf_digitChar {d b : Nat} (hd : d < b) (hb : b ≤ 36) : digitOf (digitChar d) b = some d := by
  rw [digitOf_le _ hb, digitOf_digitChar36 ⟨d, hd.trans_le hb⟩]; simp [hd]

theorem digitOf_none {c : Char} {b B : Nat} (h : digitOf c B = none) (hb : b ≤ B) : digitOf c b = none := by
  rw [digitOf_le c hb, h]; rfl

theorem digitChar_ne {c : Char} (h : digitOf c 36 = none) {d : Nat} (hd : d < 36) : digitChar d ≠ c := by
  rintro rfl
  rw [digitOf_digitChar hd (Nat.le_refl _)] at h; cases h

theorem digitChar_inj {d e : Nat} (hd : d < 36) (he : e < 36) (h : digitChar d = digitChar e) : d = e := by
  have := digitOf_digitChar hd (Nat.le_refl _)
  rw [h, digitOf_digitChar he (Nat.le_refl _)] at this
  exact (Option.some.inj this).symm

theorem isSep_digitChar {d : Nat} (hd : d < 36) {th : Char} (hth : digitOf th 36 = none) : isSep (digitChar d) th = false := by
  simp [isSep, digitChar_ne hth hd, digitChar_ne (c := '_') (by decide) hd]

/-- `sep` the decimal and `th` the thousands separator, under either `DecimalSeparatorStyle` -/
def SepOK (sep th : Char) : Prop := (sep = '.' ∧ th = ',') ∨ (sep = ',' ∧ th = '.')

theorem SepOK.sep {sep th : Char} (hs : SepOK sep th) : digitOf sep 36 = none := by
  rcases hs with ⟨rfl, _⟩ | ⟨rfl, _⟩ <;> decide

theorem SepOK.th {sep th : Char} (hs : SepOK sep th) : digitOf th 36 = none := by
  rcases hs with ⟨_, rfl⟩ | ⟨_, rfl⟩ <;> decide

def Ends (b : Nat) (th : Char) (rest : List Char) : Prop :=
  rest = [] ∨ ∃ c r, rest = c :: r ∧ digitOf c b = none ∧ isSep c th = false

theorem Ends.mono {b B : Nat} {th : Char} {rest : List Char} (h : Ends B th rest) (hb : b ≤ B) : Ends b th rest :=
  h.imp_right fun ⟨c, r, e, hc, hs⟩ => ⟨c, r, e, digitOf_none hc hb, hs⟩

theorem SepOK.ends {sep th : Char} (hs : SepOK sep th) {b : Nat} (hb : b ≤ 36) {c : Char} (hc : c ∈ [sep, '(', ')', '#'])
    (r : List Char) : Ends b th (c :: r) := by
  refine Ends.mono (.inr ⟨c, r, rfl, ?_⟩) hb
  revert c
  rcases hs with ⟨rfl, rfl⟩ | ⟨rfl, rfl⟩ <;> decide

theorem intLoop_scan (allowSep : Bool) {b : Nat} (hb : b ≤ 36) {th : Char} (hth : digitOf th 36 = none)
    (rest : List Char) (hr : Ends b th rest) :
    ∀ (fuel : Nat) (ds acc : List Nat), (∀ d ∈ ds, d < b) → (ds.map digitChar ++ rest).length < fuel →
      intLoop allowSep b th fuel (ds.map digitChar ++ rest) acc = .ok (acc.reverse ++ ds, rest) := by
  intro fuel
  induction fuel with
  | zero => intro _ _ _ hf; cases hf
  | succ f ih =>
    intro ds acc hds hf
    cases ds with
    | nil =>
      rcases hr with rfl | ⟨c, r, rfl, hc, hs⟩
      · simp [intLoop]
      · simp [intLoop, hs, hc]
    | cons d ds =>
      have ⟨hd, hds⟩ := List.forall_mem_cons.mp hds
      simp only [List.map_cons, List.cons_append, intLoop, isSep_digitChar (Nat.lt_of_lt_of_le hd hb) hth, digitOf_digitChar hd hb,
        Bool.false_and, Bool.false_eq_true, if_false]
      rw [ih ds (d :: acc) hds (Nat.lt_of_succ_lt_succ hf)]; simp

theorem parseInteger_scan (allowSep : Bool) {b : Nat} (hb : b ≤ 36) {th : Char} (hth : digitOf th 36 = none)
    (d : Nat) (ds : List Nat) (hds : ∀ x ∈ d :: ds, x < b) (rest : List Char) (hr : Ends b th rest) :
    parseInteger allowSep b th ((d :: ds).map digitChar ++ rest) = .ok (d :: ds, rest) := by
  have ⟨hd, hds⟩ := List.forall_mem_cons.mp hds
  simp only [List.map_cons, List.cons_append, parseInteger, digitOf_digitChar hd hb]
  exact intLoop_scan allowSep hb hth rest hr _ ds [d] hds (Nat.lt_succ_self _)

/-- `h`: the digits after the point may be none only where the cycle follows at once -/
theorem plainDigits_scan {b : Nat} (hb : b ≤ 36) {th : Char} (hth : digitOf th 36 = none) (a : List Nat) (ha : ∀ d ∈ a, d < b)
    (rest : List Char) (hr : Ends b th rest) (h : a ≠ [] ∨ ∃ r, rest = '(' :: r) :
    plainDigits b th (a.map digitChar ++ rest) = .ok (a, rest) := by
  cases a with
  | nil =>
    obtain ⟨r, rfl⟩ := h.resolve_left (by simp)
    rfl
  | cons a0 at' =>
    have hne : digitChar a0 ≠ '(' := digitChar_ne (by decide) (Nat.lt_of_lt_of_le (ha a0 (by simp)) hb)
    rw [plainDigits]
    · exact parseInteger_scan true hb hth a0 at' ha rest hr
    · simp [hne]

theorem recurPart_scan {b : Nat} (hb : b ≤ 36) {sep th : Char} (hs : SepOK sep th) (fs c : List Nat) (hc : ∀ d ∈ c, d < b) (hne : c ≠ []) :
    recurPart b th fs ('(' :: (c.map digitChar ++ [')'])) = .ok (some fs, some c, []) := by
  obtain ⟨c0, ct, rfl⟩ := List.exists_cons_of_ne_nil hne
  have hC := parseInteger_scan true hb hs.th c0 ct hc [')'] (hs.ends hb (by simp) [])
  simp only [List.map_cons, List.cons_append] at hC ⊢
  simp only [recurPart, digitOf_digitChar (hc c0 (by simp)) hb, hC]

theorem fracPart_scan {b : Nat} (hb : b ≤ 36) {sep th : Char} (hth : digitOf th 36 = none) (a : List Nat) (ha : ∀ d ∈ a, d < b)
    (rest : List Char) (hr : Ends b th rest) (h : a ≠ [] ∨ ∃ r, rest = '(' :: r) :
    fracPart b sep th (sep :: (a.map digitChar ++ rest)) = recurPart b th a rest := by
  simp only [fracPart, beq_self_eq_true, if_true, plainDigits_scan hb hth a ha rest hr h]

theorem fracPart_terminating {b : Nat} (hb : b ≤ 36) {sep th : Char} (hth : digitOf th 36 = none) (a : List Nat) (ha : ∀ d ∈ a, d < b)
    (hane : a ≠ []) : fracPart b sep th (sep :: a.map digitChar) = .ok (some a, none, []) := by
  have h := fracPart_scan (sep := sep) hb hth a ha [] (.inl rfl) (.inl hane)
  rwa [List.append_nil] at h

theorem fracPart_recurring {b : Nat} (hb : b ≤ 36) {sep th : Char} (hs : SepOK sep th) (a c : List Nat) (ha : ∀ d ∈ a, d < b)
    (hc : ∀ d ∈ c, d < b) (hcne : c ≠ []) :
    fracPart b sep th (sep :: (a.map digitChar ++ '(' :: (c.map digitChar ++ [')']))) = .ok (some a, some c, []) :=
  (fracPart_scan hb hs.th a ha _ (hs.ends hb (by simp) _) (.inr ⟨_, rfl⟩)).trans (recurPart_scan hb hs a c hc hcne)

theorem expPart_nil (b : Nat) (th : Char) : expPart b th [] = .ok (none, []) := by simp [expPart]

theorem supFollows_nil (b : Nat) : supFollows b [] = false := by simp [supFollows]

theorem diceAfter_nil (b : Nat) (f : Option (List Nat)) : diceAfter b f [] = false := by simp [diceAfter]

theorem diceNoCount_digit {b d : Nat} (hd : d < b) (hb : b ≤ 36) (tl : List Char) : diceNoCount b (digitChar d :: tl) = false := by
  unfold diceNoCount
  split
  · rename_i heq
    injection heq with h1 _
    -- `'d'` is the digit 13
    have := digitChar_inj (Nat.lt_of_lt_of_le hd hb) (by decide : 13 < 36) h1
    simp only [Bool.and_eq_false_imp, decide_eq_true_eq]
    omega
  · rfl

theorem parseBasic_scan {b : Nat} (hb : b ≤ 36) {sep th : Char} (hs : SepOK sep th) (i : List Nat) (hne : i ≠ []) (hi : ∀ x ∈ i, x < b)
    (rest : List Char) (hr : Ends b th rest) {frac recur : Option (List Nat)} {rest' : List Char} {exp : Option (Bool × List Nat)}
    (hF : fracPart b sep th rest = .ok (frac, recur, rest')) (hD : diceAfter b frac rest' = false)
    (hE : expPart b th rest' = .ok (exp, [])) :
    parseBasic b sep th (i.map digitChar ++ rest) = .ok (.num ⟨b, i, frac, recur, exp⟩ []) := by
  obtain ⟨d, t, rfl⟩ := List.exists_cons_of_ne_nil hne
  have hd : d < b := hi d (by simp)
  have hI := parseInteger_scan true hb hs.th d t hi rest hr
  have hnosep : (digitChar d == sep) = false := by simpa using digitChar_ne hs.sep (Nat.lt_of_lt_of_le hd hb)
  simp only [List.map_cons, List.cons_append] at hI ⊢
  simp only [parseBasic, diceNoCount_digit hd hb, hnosep, hI, hF, hD, hE, supFollows_nil, Bool.false_eq_true, if_false]

theorem digit10_isDigit : ∀ d : Fin 10, (digitChar d.val).isDigit = true := by decide +kernel

theorem diceAfter_e (b : Nat) (f : Option (List Nat)) (tl : List Char) : diceAfter b f ('e' :: tl) = false := by
  simp [diceAfter]

theorem expSign_digit (c : Char) (tl : List Char) (h1 : c ≠ '-') (h2 : c ≠ '+') : expSign (c :: tl) = (false, c :: tl) := by
  simp [expSign, h1, h2]

theorem expPart_scan {b : Nat} (hb : b ≤ 10) {th : Char} (hth : digitOf th 36 = none) (sign : Option Bool)
    (d : Nat) (ds : List Nat) (hds : ∀ x ∈ d :: ds, x < b) :
    expPart b th ('e' :: ((match sign with | none => [] | some true => ['-'] | some false => ['+']) ++ (d :: ds).map digitChar)) =
      .ok (some (sign == some true, d :: ds), []) := by
  have hd : d < 10 := Nat.lt_of_lt_of_le (hds d (by simp)) hb
  have hpi := parseInteger_scan true (hb.trans (by decide)) hth d ds hds [] (.inl rfl)
  simp only [List.append_nil, List.map_cons] at hpi
  rcases sign with _ | _ | _
  · have hm : digitChar d ≠ '-' := digitChar_ne (by decide) (hd.trans_le (by decide))
    have hp : digitChar d ≠ '+' := digitChar_ne (by decide) (hd.trans_le (by decide))
    simp [expPart, hb, digit10_isDigit ⟨d, hd⟩, expSign_digit _ _ hm hp, hpi]
  · simp [expPart, hb, expSign, hpi]
  · simp [expPart, hb, expSign, hpi]

/-- `expPart` reads an exponent only in bases up to 10; there `e` (the digit 14) also ends the integer's run -/
theorem parseBasic_exponent {b : Nat} (hb : b ≤ 10) {sep th : Char} (hs : SepOK sep th) (i : List Nat) (hne : i ≠ []) (hi : ∀ x ∈ i, x < b)
    (sign : Option Bool) (d : Nat) (ds : List Nat) (hds : ∀ x ∈ d :: ds, x < b) :
    parseBasic b sep th (i.map digitChar ++
        'e' :: ((match sign with | none => [] | some true => ['-'] | some false => ['+']) ++ (d :: ds).map digitChar)) =
      .ok (.num ⟨b, i, none, none, some (sign == some true, d :: ds)⟩ []) := by
  have he : digitOf 'e' b = none := digitOf_none (by decide : digitOf 'e' 10 = none) hb
  have hes : isSep 'e' th = false ∧ ('e' == sep) = false := by rcases hs with ⟨rfl, rfl⟩ | ⟨rfl, rfl⟩ <;> decide
  refine parseBasic_scan (hb.trans (by decide)) hs i hne hi _ (.inr ⟨'e', _, rfl, he, hes.1⟩) ?_ (diceAfter_e ..) (expPart_scan hb hs.th sign d ds hds)
  simp only [fracPart, hes.2, Bool.false_eq_true, if_false]

theorem parseBasePrefix_zero {b : Nat} (hb : b = 2 ∨ b = 8 ∨ b = 16) (th : Char) (r : List Char) :
    parseBasePrefix th (prefixChars .zero b ++ r) = .ok (b, .zero, r) := by
  rcases hb with rfl | rfl | rfl <;> rfl

theorem parseBasePrefix_run {th : Char} (hth : digitOf th 36 = none) (ds : List Nat) (hds : ∃ d t, ds = d :: t ∧ d ≠ 0)
    (hlt : ∀ x ∈ ds, x < 10) (rest : List Char) (hr : Ends 10 th rest) :
    parseBasePrefix th (ds.map digitChar ++ rest) =
      match parseBasePrefix.go ds 0 with
      | none => .error .baseTooLarge
      | some v => if v < 2 then .error .baseTooSmall
        else if rest.head? = some '#' then .ok (v, .custom, rest.tail) else .error .expectedChar := by
  obtain ⟨d, t, rfl, hd⟩ := hds
  have hne : digitChar d ≠ '0' := fun h => hd (digitChar_inj ((hlt d (by simp)).trans_le (by decide)) (by decide : 0 < 36) h)
  have hpi := parseInteger_scan false (by decide : 10 ≤ 36) hth d t hlt rest hr
  simp only [List.map_cons, List.cons_append] at hpi ⊢
  rw [parseBasePrefix]
  · -- the digit run is read back (`hpi`); what is left is to write the `match rest` of the definition with `head?` / `tail`
    simp only [hpi]
    cases parseBasePrefix.go (d :: t) 0 with
    | none => rfl
    | some v =>
      rcases rest with _ | ⟨c, r⟩
      · rfl
      · by_cases hc : c = '#'
        · subst hc; rfl
        · simp [hc]
  · -- the `'0' :: _` arm does not apply: the first digit is not `0`
    simp [hne]

theorem base_go : ∀ b : Fin 37, 2 ≤ b.val → parseBasePrefix.go (natDigits 10 b.val) 0 = some b.val := by decide +kernel

theorem parseBasePrefix_custom {b : Nat} (hb2 : 2 ≤ b) (hb : b ≤ 36) {sep th : Char} (hs : SepOK sep th) (r : List Char) :
    parseBasePrefix th (prefixChars .custom b ++ r) = .ok (b, .custom, r) := by
  simp only [prefixChars, toString_toList, List.append_assoc, List.singleton_append]
  rw [parseBasePrefix_run hs.th _ (natDigits_head 10 b (by decide) (by omega)) (natDigits_lt 10 b (by decide)) _
    (hs.ends (by decide) (by simp) r), base_go ⟨b, Nat.lt_succ_of_le hb⟩ hb2]
  simp [Nat.not_lt.mpr hb2]

/-- plain decimal text has no base prefix: a lone `0` is followed by none of `x`, `o`, `b`, and a longer run by no `#` -/
theorem parseBasePrefix_plain {th : Char} (hth : digitOf th 36 = none) (n : Nat) (rest : List Char) (hr : Ends 36 th rest)
    (hh : rest.head? ≠ some '#') : ∃ e, parseBasePrefix th ((natDigits 10 n).map digitChar ++ rest) = .error e := by
  rcases Nat.eq_zero_or_pos n with rfl | hn
  · rcases hr with rfl | ⟨c, r, rfl, hc, _⟩
    · exact ⟨_, rfl⟩
    · have hx : c ≠ 'x' ∧ c ≠ 'o' ∧ c ≠ 'b' := by
        refine ⟨?_, ?_, ?_⟩ <;> rintro rfl <;> exact absurd hc (by decide)
      show ∃ e, parseBasePrefix th ('0' :: c :: r) = .error e
      exact ⟨.invalidBasePrefix, by simp [parseBasePrefix, hx]⟩
  · rw [parseBasePrefix_run hth _ (natDigits_head 10 n (by decide) hn) (natDigits_lt 10 n (by decide)) rest (hr.mono (by decide))]
    -- no `#` follows (`hh`), so every arm that is left is an error
    simp only [hh, if_false]
    split
    · exact ⟨_, rfl⟩
    · split <;> exact ⟨_, rfl⟩

theorem parseNumber_prefixed {sep th : Char} {input rest : List Char} {b : Nat} {p : Pfx} {s : Scan}
    (hp : parseBasePrefix th input = .ok (b, p, rest)) (h : parseBasic b sep th rest = .ok s) :
    parseNumber sep th input = .ok (s, p) := by
  simp only [parseNumber, hp, h]

theorem parseNumber_plain {sep th : Char} {input : List Char} {e : LErr} {s : Scan}
    (hp : parseBasePrefix th input = .error e) (h : parseBasic 10 sep th input = .ok s) :
    parseNumber sep th input = .ok (s, .plain) := by
  simp only [parseNumber, hp, h]

end Fend.NumLit
