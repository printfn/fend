/-
Outcomes of model functions against mathematical outcomes `d : Option β`, `none` standing for a division by zero
(`Rep r q`: the model value `r` represents `q`). The tree evaluators and the complex operations are sequences of
fallible steps; `Refines.bind` and its variants take a proof through such a sequence one step at a time.
-/
import FendModel.Model.BigUint

namespace Fend

def Refines {α β : Type} (Rep : α → β → Prop) (ev : R α) : Option β → Prop
  | some q => ∃ r, ev = .ok r ∧ Rep r q
  | none => ev = .error .divideByZero

namespace Refines
variable {α β γ δ : Type} {Rep : α → β → Prop} {Rep' : γ → δ → Prop} {m : R α} {d : Option β}

theorem spec (h : Refines Rep m d) :
    (∀ q, d = some q → ∃ r, m = .ok r ∧ Rep r q) ∧ (d = none → m = .error .divideByZero) := by
  cases d with
  | none => exact ⟨fun _ e => (nomatch e), fun _ => h⟩
  | some p => exact ⟨fun q e => Option.some.inj e ▸ h, fun e => nomatch e⟩

theorem bind {k : α → R γ} {f : β → Option δ} (h : Refines Rep m d)
    (hk : ∀ x p, Rep x p → Refines Rep' (k x) (f p)) : Refines Rep' (m >>= k) (d >>= f) := by
  cases d with
  | none => rw [show m = _ from h]; rfl
  | some p => obtain ⟨r, rfl, hr⟩ := h; exact hk r p hr

theorem step {k : α → R γ} {p : β} {d' : Option δ} (h : ∃ r, m = .ok r ∧ Rep r p)
    (hk : ∀ x, Rep x p → Refines Rep' (k x) d') : Refines Rep' (m >>= k) d' := by
  obtain ⟨r, rfl, hr⟩ := h; exact hk r hr

theorem bind₂ {m' : R α} {d' : Option β} {k : α → α → R γ} {f : β → β → Option δ} (h : Refines Rep m d)
    (h' : Refines Rep m' d') (hk : ∀ {x y p q}, Rep x p → Rep y q → Refines Rep' (k x y) (f p q)) :
    Refines Rep' (m >>= fun x => m' >>= fun y => k x y) (d >>= fun p => d' >>= fun q => f p q) :=
  h.bind fun _ _ hx => h'.bind fun _ _ hy => hk hx hy

theorem map {g : α → γ} {f : β → δ} (h : Refines Rep m d) (hg : ∀ x p, Rep x p → Rep' (g x) (f p)) :
    Refines Rep' (m >>= fun x => .ok (g x)) (d.map f) := by
  rw [Option.map_eq_bind]
  exact h.bind fun x p hx => ⟨g x, rfl, hg x p hx⟩

end Refines

theorem ok_bind {α β : Type} (a : α) (f : α → R β) : (Except.ok a >>= f) = f a := rfl

theorem error_bind {α β : Type} (e : Err) (f : α → R β) : (Except.error e >>= f) = .error e := rfl

theorem ok_ne_panic {α : Type} {c : R α} {a : α} (h : c = .ok a) : c ≠ .error .panic := h ▸ nofun

theorem Refines.ne_panic {α β : Type} {Rep : α → β → Prop} {m : R α} {d : Option β} (h : Refines Rep m d) :
    m ≠ .error .panic := by
  cases d with
  | none => rw [show m = _ from h]; nofun
  | some q => obtain ⟨r, hr, _⟩ := h; exact ok_ne_panic hr

/-- a `do` block compiles `let x ← if c then a else b; k x` to the right-hand side -/
theorem ite_bind {α β : Type} (c : Prop) [Decidable c] (a b : R α) (k : α → R β) :
    (if c then a else b) >>= k = if c then a >>= k else b >>= k :=
  apply_ite (· >>= k) c a b

end Fend
