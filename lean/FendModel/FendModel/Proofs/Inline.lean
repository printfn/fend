/-
Two invariants of the inline scanner's `step`: the input read so far can be recovered from the state (`consumed`, which grows by
exactly the character read), and every evaluated part holds a result of `eval` on its source (`PartsOk`).
-/
import FendModel.Model.Inline

namespace Fend.Inline

theorem reassemble_append (a b : List Part) : reassemble (a ++ b) = reassemble a ++ reassemble b := by
  induction a with
  | nil => rfl
  | cons p ps ih => cases p <;> simp [reassemble, ih]

/-- the input read so far, recovered from the state: the filed parts with their brackets put back, the `[[` of an expression
still open (it is dropped from `cur` when `inExpr` is set), and the pending characters -/
def consumed {σ} (st : St σ) : List Char :=
  reassemble st.parts.reverse ++ (if st.inExpr then ['[', '['] else []) ++ st.cur.reverse

theorem step_consumed {σ} (eval : σ → List Char → σ × Res) (st : St σ) (ch : Char) :
    consumed (step eval st ch) = consumed st ++ [ch] := by
  fun_cases step eval st ch
  case case1 rest heq hc =>
    -- `ch` completes a `[[` that opens an expression: `rest` is filed as a part, and `consumed` writes the `[[` again
    -- because `inExpr` is set
    injection heq with h1 h2
    simp only [Bool.and_eq_true, Bool.not_eq_true'] at hc
    simp [consumed, reassemble_append, reassemble, hc.1, h1, h2]
  case case3 rest heq hc _ _ _ =>
    -- `ch` completes a `]]` that closes the expression: `rest` is filed as `evaluated`, and `reassemble` writes
    -- `[[rest]]` for that part
    injection heq with h1 h2
    simp only [Bool.and_eq_true, Bool.not_eq_true'] at hc
    simp [consumed, reassemble_append, reassemble, hc.1, h1, h2]
  -- every other branch only puts `ch` in front of `cur`
  all_goals simp +zetaDelta [consumed]

theorem foldl_consumed {σ} (eval : σ → List Char → σ × Res) (st : St σ) (input : List Char) :
    consumed (input.foldl (step eval) st) = consumed st ++ input := by
  induction input generalizing st with
  | nil => simp
  | cons c cs ih => simp [List.foldl_cons, ih, step_consumed]

theorem finish_reassemble {σ} (st : St σ) : reassemble (finish st) = consumed st := by
  simp [finish, consumed, reassemble_append, reassemble]

def PartsOk {σ} (eval : σ → List Char → σ × Res) : List Part → Prop
  | [] => True
  | .unprocessed _ :: ps => PartsOk eval ps
  | .evaluated src r :: ps => (∃ c, (eval c src).2 = r) ∧ PartsOk eval ps

theorem step_partsOk {σ} (eval : σ → List Char → σ × Res) (st : St σ) (ch : Char)
    (h : PartsOk eval st.parts) : PartsOk eval (step eval st ch).parts := by
  fun_cases step eval st ch
  -- the one branch that files an evaluated part (`he : eval st.ctx rest.reverse = (ctx', r)`)
  case case3 _ _ _ _ _ he => exact ⟨⟨st.ctx, congrArg Prod.snd he⟩, h⟩
  all_goals exact h

theorem foldl_partsOk {σ} (eval : σ → List Char → σ × Res) (st : St σ) (input : List Char)
    (h : PartsOk eval st.parts) : PartsOk eval (input.foldl (step eval) st).parts := by
  induction input generalizing st with
  | nil => exact h
  | cons c cs ih => exact ih _ (step_partsOk eval st c h)

theorem partsOk_iff {σ} (eval : σ → List Char → σ × Res) (ps : List Part) :
    PartsOk eval ps ↔ ∀ src r, .evaluated src r ∈ ps → ∃ c, (eval c src).2 = r := by
  induction ps with
  | nil => simp [PartsOk]
  | cons p ps ih => cases p <;> simp [PartsOk, ih, or_imp, forall_and]

theorem partsOk_reverse {σ} (eval : σ → List Char → σ × Res) (a : List Part)
    (ha : PartsOk eval a) : PartsOk eval a.reverse := by
  simpa only [partsOk_iff, List.mem_reverse] using ha

end Fend.Inline
