/-
C09 — variables and lambdas are referentially transparent and lexically scoped.
-/
import FendModel.Model.Scope
import FendModel.Proofs.ScopeLet
import FendModel.Proofs.ScopeBetaFull
import FendModel.Proofs.ScopeLetFull

namespace Fend.C09
open Fend.Scope

theorem lookup_insert_other (vs : Vars) (x y : String) (v : Value) (h : y ≠ x) :
    (lookup (setVar vs x v) y).isSome = (lookup vs y).isSome := by
  rw [lookup_setVar_other vs x y v h]

theorem result_recorded {bi : List (String × Rat)} {fuel : Nat} {e : Expr} {vs vs' : Vars} {v : Value}
    (h : evalInput bi fuel e vs = (.ok v, vs')) : lookup vs' "_" = some v ∧ lookup vs' "ans" = some v := by
  unfold evalInput at h
  split at h
  · cases h
    exact ⟨by rw [lookup_setVar_other _ _ _ _ (by decide)]; exact lookup_setVar_same .., lookup_setVar_same ..⟩
  · cases h

/-- `_` and `ans` hold the most recently computed result: right after a successful input a read of either
finds a value, and for a number (or the unit value) it is that very result -/
theorem ans_holds_result (bi : List (String × Rat)) (fuel : Nat) (e : Expr) (vs vs' : Vars) (v : Value)
    (h : evalInput bi fuel e vs = (.ok v, vs')) :
    (∃ w, lookup vs' "ans" = some w ∧ (∀ q, v = .num q → w = .num q) ∧ (v = .unit → w = .unit)) :=
  ⟨v, (result_recorded h).2, fun _ h => h, fun h => h⟩

/-- an input that fails to compute a value does not touch `_` / `ans` beyond what the evaluation itself did:
no result is recorded -/
theorem failure_records_nothing (bi : List (String × Rat)) (fuel : Nat) (e : Expr) (vs : Vars) (er : Err)
    (h : (eval bi fuel e .nil vs).1 = .error er) : evalInput bi fuel e vs = (.error er, (eval bi fuel e .nil vs).2) := by
  unfold evalInput
  generalize eval bi fuel e .nil vs = r at *
  obtain ⟨_, w⟩ := r
  cases h
  rfl

/-- inner parameters shadow outer ones -/
theorem inner_shadows_outer (x : String) (a : Expr) (c inner : Scope) :
    (Scope.cons x a c inner).find x = some (a, c) ∧ ∀ y, y ≠ x → (Scope.cons x a c inner).find y = inner.find y :=
  ⟨Scope.find_cons_self x a c inner, fun _ hy => Scope.find_cons_ne (Ne.symm hy) a c inner⟩

/-- resolution order: a parameter beats a user variable beats a built-in -/
theorem resolution_order (bi : List (String × Rat)) (fuel : Nat) (x : String) (sc : Scope) (vs : Vars) :
    (∀ a c, sc.find x = some (a, c) → eval bi (fuel + 1) (.var x) sc vs = eval bi fuel a c vs) ∧
    (∀ v, sc.find x = none → lookup vs x = some v → eval bi (fuel + 1) (.var x) sc vs = (.ok v, vs)) :=
  ⟨fun _ _ h => eval_var_param bi fuel sc vs h, fun v h1 h2 => by rw [eval_var_global bi fuel sc vs h1, global, h2]⟩

/-- a closure keeps the bindings it was created with, and a call binds the argument lazily together with the
scope of the call site -/
theorem closure_and_call (bi : List (String × Rat)) (fuel : Nat) (x : String) (b r : Expr) (sc : Scope) (vs : Vars) :
    eval bi (fuel + 1) (.lam x b) sc vs = (.ok (.fn x b sc), vs) ∧
    (∀ f p body custom vs', eval bi fuel f sc vs = (.ok (.fn p body custom), vs') →
      eval bi (fuel + 1) (.app f r) sc vs = eval bi fuel body (.cons p r sc custom) vs') :=
  ⟨eval_lam bi fuel sc vs x b, fun f p body custom vs' h => by rw [eval_app, h, andThen_ok]⟩

def firstOrder : Expr → Bool
  | .num _ => true
  | .unitLit => true
  | .var _ => true
  | .parens e => firstOrder e
  | .neg e => firstOrder e
  | .bop _ a b => firstOrder a && firstOrder b
  | .lam _ _ => false
  | .app _ _ => false
  | .assign _ _ => false
  | .seq a b => firstOrder a && firstOrder b

theorem body_subst (bi : List (String × Rat)) (x : String) (r : Expr) (sc : Scope) :
    ∀ (fuel : Nat) (b : Expr), firstOrder b = true → ∀ vs, eval bi fuel b (.cons x r sc sc) vs = eval bi fuel (subst x r b) sc vs := by
  intro fuel
  induction fuel with
  | zero => intro _ _ _; rfl
  | succ f ih =>
    intro b hb vs
    cases b with
    | num q => rfl
    | unitLit => rfl
    | var y =>
      by_cases hy : y = x
      · subst hy; rw [subst_var_self]; exact eval_var_param bi f _ vs (Scope.find_cons_self ..)
      · rw [subst_var_ne hy]; dsimp only [eval]; rw [Scope.find_cons_ne (Ne.symm hy)]
    | parens t => exact ih t hb vs
    | neg t => simp only [subst, eval_neg, ih t hb]
    | bop op a c =>
      have hb := Bool.and_eq_true_iff.1 hb
      simp only [subst, eval_bop, ih a hb.1, ih c hb.2]
    | seq a c =>
      have hb := Bool.and_eq_true_iff.1 hb
      simp only [subst, eval_seq, ih a hb.1, ih c hb.2]
    | lam | app | assign => cases hb

/-- **β for first-order bodies**: applying `\x. b` to ANY argument expression `r` (evaluated lazily, possibly
failing, possibly with effects) gives exactly what substituting `(r)` for `x` in `b` gives — same value or error,
same final variables — in every scope and context -/
theorem beta_first_order (bi : List (String × Rat)) (x : String) (b r : Expr) (hb : firstOrder b = true)
    (fuel : Nat) (sc : Scope) (vs : Vars) :
    eval bi (fuel + 2) (.app (.lam x b) r) sc vs = eval bi (fuel + 1) (subst x r b) sc vs := by
  rw [eval_app, eval_lam]
  exact body_subst bi x r sc (fuel + 1) b hb vs

/-- **β in full** (lexical scoping of lambdas): for an ARBITRARY body `b` — nested lambdas, applications, closures stored in
variables and called later, assignments, sequences — and an ARBITRARY argument expression `r` (lazily evaluated, possibly
failing, possibly with effects, possibly mentioning free names and lambdas of its own), applying `\x. b` to `r` and evaluating
`b` with `(r)` written in place of `x` give related results in every scope and context, with the same fuel: the same error,
or the same number, or unit, or closures that differ only by that substitution; and the variables afterwards are related in
the same way.  Hygiene hypothesis: no binder inside `b` re-binds `x` or a name occurring in `r` (the classical side condition
of capture-avoiding substitution; `subst` here is the plain textual one). -/
theorem beta (bi : List (String × Rat)) (x : String) (b r : Expr) (hb : Hyg x r b = true) (fuel : Nat) (sc : Scope) (vs : Vars) :
    ResR x r (eval bi (fuel + 2) (.app (.lam x b) r) sc vs) (eval bi (fuel + 1) (subst x r b) sc vs) :=
  .of_rel (beta_rel bi b hb fuel sc vs)

/-- … and what an observer of the result sees is identical -/
theorem beta_observable (bi : List (String × Rat)) (x : String) (b r : Expr) (hb : Hyg x r b = true) (fuel : Nat) (sc : Scope) (vs : Vars) :
    (∀ er, (eval bi (fuel + 2) (.app (.lam x b) r) sc vs).1 = .error er ↔ (eval bi (fuel + 1) (subst x r b) sc vs).1 = .error er) ∧
    (∀ q, (eval bi (fuel + 2) (.app (.lam x b) r) sc vs).1 = .ok (.num q) ↔ (eval bi (fuel + 1) (subst x r b) sc vs).1 = .ok (.num q)) ∧
    ((eval bi (fuel + 2) (.app (.lam x b) r) sc vs).1 = .ok .unit ↔ (eval bi (fuel + 1) (subst x r b) sc vs).1 = .ok .unit) ∧
    ((∃ p body C, (eval bi (fuel + 2) (.app (.lam x b) r) sc vs).1 = .ok (.fn p body C)) ↔
      (∃ p body C, (eval bi (fuel + 1) (subst x r b) sc vs).1 = .ok (.fn p body C))) := by
  -- `cases` on a `Rel` between `eval …` terms fails (its indices must be variables): name the two results first
  generalize eval bi (fuel + 2) (.app (.lam x b) r) sc vs = a, eval bi (fuel + 1) (subst x r b) sc vs = a',
    beta_rel bi b hb fuel sc vs = h
  cases h with
  | esc h => exact h.elim
  | err hw => exact ⟨fun _ => .rfl, fun _ => .rfl, .rfl, .rfl⟩
  | ok hv hw =>
    rcases flat_VR.inv hv with rfl | ⟨_, _, _, _, _, _, rfl, rfl⟩
    · exact ⟨fun _ => .rfl, fun _ => .rfl, .rfl, .rfl⟩
    · simp

-- non-vacuity: b = `(\y. (\z. y + z + x) x) x` hands `x` on twice through nested lambdas; r = `k + 1` has a free name
example : Hyg "x" (.bop .add (.var "k") (.num 1))
    (.app (.lam "y" (.app (.lam "z" (.bop .add (.bop .add (.var "y") (.var "z")) (.var "x"))) (.var "x"))) (.var "x")) = true := by decide +kernel

/-- **binding a name and using it = writing the parenthesised expression in its place** (top level, closed arithmetic
right-hand side, body without binders / applications / assignments): `x = e; b` yields exactly what `b[x := (e)]` yields —
the same value or the same error — in every context, for all sufficient fuel -/
theorem let_transparent (bi : List (String × Rat)) (x : String) (e : Expr) (q : Rat) (he : closedArith e = true) (hq : ceval e = .ok q)
    (b : Expr) (hb : plainBody b = true) (fuel : Nat) (hf : depth (subst x e b) ≤ fuel) (hfe : depth e + 1 ≤ fuel) (vs : Vars) :
    (eval bi (fuel + 1) (.seq (.assign x e) b) .nil vs).1 = (eval bi fuel (subst x e b) .nil vs).1 := by
  rw [eval_let bi he hq hfe]
  exact (congrArg Prod.fst (let_plain bi x e q he hq fuel b hb hf vs) :)

/-- **binding a name and using it = writing the parenthesised expression in its place, for ARBITRARY bodies**: with `e` a closed
arithmetic expression of value `q`, `x = e; b` and `b[x := (e)]` give related results — the same error, the same number or unit,
closures differing only by that substitution — and related variables, whenever `b` neither re-binds nor re-assigns `x` and the
values already stored do not mention `x` (`hgood`: each is related to itself; numbers, unit and closures without `x` are).
The right side re-evaluates `(e)` at every use, so it is given `depth e + 1` more fuel; the statement is up to fuel exhaustion
of the left side (first disjunct of `ResR`). -/
theorem let_general (bi : List (String × Rat)) (x : String) (e : Expr) (q : Rat) (b : Expr) (he : closedArith e = true) (hq : ceval e = .ok q)
    (hb : LetF.HygL x b = true) (vs : Vars)
    (hgood : ∀ y, y ≠ x → lookup vs y = none ∨ ∃ v, lookup vs y = some v ∧ LetF.VR x e v v)
    (F : Nat) (hF : depth e + 1 ≤ F) :
    LetF.ResR x e q (eval bi (F + 1) (.seq (.assign x e) b) .nil vs) (eval bi (F + (depth e + 1)) (subst x e b) .nil vs) :=
  .of_rel (LetF.let_rel bi b he hq hb vs hgood F hF)

theorem let_general_observable (bi : List (String × Rat)) (x : String) (e : Expr) (q : Rat) (b : Expr) (he : closedArith e = true) (hq : ceval e = .ok q)
    (hb : LetF.HygL x b = true) (vs : Vars)
    (hgood : ∀ y, y ≠ x → lookup vs y = none ∨ ∃ v, lookup vs y = some v ∧ LetF.VR x e v v)
    (F : Nat) (hF : depth e + 1 ≤ F) :
    (∀ r, (eval bi (F + 1) (.seq (.assign x e) b) .nil vs).1 = .ok (.num r) →
      (eval bi (F + (depth e + 1)) (subst x e b) .nil vs).1 = .ok (.num r)) ∧
    ((eval bi (F + 1) (.seq (.assign x e) b) .nil vs).1 = .ok .unit →
      (eval bi (F + (depth e + 1)) (subst x e b) .nil vs).1 = .ok .unit) ∧
    (∀ er, er ≠ .fuel → (eval bi (F + 1) (.seq (.assign x e) b) .nil vs).1 = .error er →
      (eval bi (F + (depth e + 1)) (subst x e b) .nil vs).1 = .error er) := by
  generalize eval bi (F + 1) (.seq (.assign x e) b) .nil vs = a, eval bi (F + (depth e + 1)) (subst x e b) .nil vs = a',
    LetF.let_rel bi b he hq hb vs hgood F hF = h
  cases h with
  | esc h => subst h; exact ⟨fun _ h => (nomatch h), fun h => (nomatch h), fun _ hne h => absurd (Except.error.inj h).symm hne⟩
  | err hw => exact ⟨fun _ => id, id, fun _ _ => id⟩
  | ok hv hw =>
    rcases LetF.flat_VR.inv hv with rfl | ⟨_, _, _, _, _, _, rfl, rfl⟩
    · exact ⟨fun _ => id, id, fun _ _ => id⟩
    · simp

-- non-vacuity: b = `g = (y: y * x); g (x + 1)` uses x under a lambda stored in a variable and as an argument; no prior variables
example : LetF.HygL "x" (.seq (.assign "g" (.lam "y" (.bop .mul (.var "y") (.var "x")))) (.app (.var "g") (.bop .add (.var "x") (.num 1)))) = true ∧
    (∀ y, y ≠ "x" → lookup ([] : Vars) y = none ∨ ∃ v, lookup ([] : Vars) y = some v ∧ LetF.VR "x" (.num 2) v v) :=
  ⟨by decide +kernel, fun _ _ => Or.inl rfl⟩

-- non-vacuity: `(\x. x * x + k) (2 + 1)` with k = 10 evaluates to 19 both ways
example : (eval [] 10 (.app (.lam "x" (.bop .add (.bop .mul (.var "x") (.var "x")) (.var "k"))) (.bop .add (.num 2) (.num 1))) .nil
    [("k", .num 10)]).1.toOption.isSome = true := by decide +kernel

end Fend.C09
