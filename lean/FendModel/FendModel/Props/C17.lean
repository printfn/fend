/-
C17 — dice expressions denote the exact probability distribution.
Spec side: finite probability mass functions (`prob`, `conv`, `total`) over exact rationals.
-/
import FendModel.Proofs.Dist

namespace Fend.C17
open Fend.Dist

/-- arithmetic on dice is the distribution of the result for independent rolls (push-forward of the
product measure), for every binary operation and all operand distributions -/
theorem bop_pushforward (f : Rat → Rat → Rat) (a b : Dist) (z : Rat) :
    prob (bop f a b) z = conv f a b z := by
  rw [bop, prob_bopOuter]
  exact Rat.zero_add _

/-- the listed outcomes are pairwise distinct (each possible outcome appears once) -/
theorem outcomes_distinct (f : Rat → Rat → Rat) (a b : Dist) : (outcomes (bop f a b)).Nodup :=
  nodup_bopOuter f b a [] .nil

/-- probabilities sum to 1 whenever the operands' do -/
theorem total_one (f : Rat → Rat → Rat) (a b : Dist) (ha : total a = 1) (hb : total b = 1) :
    total (bop f a b) = 1 := by
  rw [total_bop, ha, hb, Rat.mul_one]

/-- `roll` always yields a listed outcome — for EVERY value of the random source and EVERY
threshold function (so independently of the floating-point step) -/
theorem roll_possible (thr : Rat → Nat) (d : Dist) (random : Nat) (r : Rat)
    (h : sample thr d random = some r) : r ∈ outcomes d := sample_possible thr d random r h

/-- and it always yields something for a non-empty distribution -/
theorem roll_total (thr : Rat → Nat) (d : Dist) (random : Nat) (hne : d ≠ []) :
    ∃ r, sample thr d random = some r := by
  obtain ⟨h, -⟩ | ⟨r, -, h⟩ := sample_spec thr d random
  · exact absurd h hne
  · exact ⟨r, h⟩

/-- kernel-checked instances (tests): 2d2, its mean, and a non-commutative combination -/
theorem examples :
    newDie 2 2 = [(2, 1/4), (3, 1/2), (4, 1/4)] ∧ mean (newDie 2 6) = some 7 ∧
    total (newDie 3 4) = 1 ∧ sorted (bop (· - ·) (die1 2) (die1 3)) = [(-2, 1/6), (-1, 1/3), (0, 1/3), (1, 1/6)] := by
  decide +kernel

end Fend.C17
