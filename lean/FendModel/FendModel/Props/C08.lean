/-
C08 — operators bind as the manual's precedence table says.

Proved for EVERY tree (unbounded), `roundtrip`: take the manual's table as a stratified grammar —

    F ::= number | ( C6 ) | F !                     `!` binds tightest
    U ::= - U | F | F ^ U                           `^` right-associative, above unary minus, which may start an exponent
    M ::= U | M (* | / | mod) U                     left-associative
    A ::= M | A (+ | -) M                           left-associative
    C1 ::= A | C1 (<< | >>) A     C2 ::= C1 | C2 & C1     C3 ::= C2 | C3 xor C2
    C4 ::= C3 | C4 `|` C3         C5 ::= C4 | C5 nCr C4   C6 ::= C5 | C6 nPr C5

— then for every tree of this grammar (parentheses only where the grammar says `( C6 )`, nested to any depth) the parser
model, started at the statement level with enough fuel, returns exactly that tree and consumes all input.  Every operator
expression over number literals written without redundant parentheses IS such a tree, so this is "an expression with no
redundant parentheses evaluates as its fully parenthesised form" at the level of parse trees, and `parens_transparent` is the
statement about adding parentheses.  The left-associative levels (the six of the ladder, `* / mod`, `+ -`) and `!` share one
induction (`LeftLevel`, `Enters`).

Above the ladder, `roundtrip_top`: sequences `a1 ; … ; an`, comparisons `==`/`!=` and right-nested assignments over complete
chains.  Outside the grammar only fixed SHAPES are proved, symbolically in the number and identifier strings, by evaluating the
model: number-unit juxtaposition against every lower operator (`juxtaposition_level`), the fraction layouts `N/D`, `I N/D`,
`-I N/D` (`fraction_layouts`), `to`, implicit sums, function application (`more_shapes`), unary `+` `/` and lambdas
(`unary_lambda_shapes`).  Not proved (carried by the correspondence run and by the kernel-evaluated instances, which are TESTS
of the model): those constructs nested inside arbitrary trees, and the levels `== != = ;` when their operands are not ladder
trees.  Fuel: the theorems say "for all sufficiently large fuel" (the shapes: an explicit bound); that `parse`'s own budget
`64·(n+2)` is sufficient is checked by the correspondence run, not proved.
-/
import FendModel.Proofs.ParserArith
import FendModel.Proofs.ParserTop

namespace Fend.C08
open Fend.Parser

private def n (k : Nat) : Tok := .num (toString k)
private def s (x : Sym) : Tok := .sym x
private def N (k : Nat) : Expr := .num (toString k)

/-- `!` above `^`: `2^3!` = 2^(3!) -/
theorem fact_above_pow : parse [n 2, s .pow, n 3, s .fact] = some (.bop .pow (N 2) (.fact (N 3))) := by decide +kernel
/-- `^` is right-associative -/
theorem pow_right_assoc : parse [n 2, s .pow, n 3, s .pow, n 2] = some (.bop .pow (N 2) (.bop .pow (N 3) (N 2))) := by decide +kernel
/-- `^` above unary minus: `-2^2` = -(2^2); a unary minus may start an exponent: `2^-3^2` = 2^(-(3^2)) -/
theorem pow_above_neg : parse [s .sub, n 2, s .pow, n 2] = some (.neg (.bop .pow (N 2) (N 2))) ∧
    parse [n 2, s .pow, s .sub, n 3, s .pow, n 2] = some (.bop .pow (N 2) (.neg (.bop .pow (N 3) (N 2)))) := by
  constructor <;> decide +kernel
/-- unary minus above `*`: `-2*3` = (-2)*3 -/
theorem neg_above_mul : parse [s .sub, n 2, s .mul, n 3] = some (.bop .mul (.neg (N 2)) (N 3)) := by decide +kernel
/-- `* / mod` are left-associative and share a level; juxtaposition binds at the same level -/
theorem mul_left_assoc : parse [n 8, s .div, n 4, s .mul, n 2, s .mod, n 3] = some (.bop .mod (.bop .mul (.bop .div (N 8) (N 4)) (N 2)) (N 3)) ∧
    parse [n 2, .ident "kg", s .mul, n 3] = some (.bop .mul (.applyMul (N 2) (.ident "kg")) (N 3)) ∧
    parse [n 2, .ident "kg", s .pow, n 2] = some (.apply (N 2) (.bop .pow (.ident "kg") (N 2))) := by
  refine ⟨?_, ?_, ?_⟩ <;> decide +kernel
/-- `*` above `+ -`, which are left-associative -/
theorem mul_above_add : parse [n 1, s .add, n 2, s .mul, n 3, s .sub, n 4] = some (.bop .minus (.bop .plus (N 1) (.bop .mul (N 2) (N 3))) (N 4)) := by decide +kernel
/-- `+` above `<< >>` above `&` above `xor` above `|` above `nCr` above `nPr` -/
theorem bitwise_ladder :
    parse [n 1, s .shl, n 2, s .add, n 3, s .bitAnd, n 4, s .bitXor, n 5, s .bitOr, n 6, s .comb, n 7, s .perm, n 8] =
      some (.bop .perm (.bop .comb (.bop .bitOr (.bop .bitXor (.bop .bitAnd (.bop .shl (N 1) (.bop .plus (N 2) (N 3))) (N 4)) (N 5)) (N 6)) (N 7)) (N 8)) ∧
    parse [n 8, s .perm, n 7, s .comb, n 6, s .bitOr, n 5, s .bitXor, n 4, s .bitAnd, n 3, s .shr, n 2, s .sub, n 1] =
      some (.bop .perm (N 8) (.bop .comb (N 7) (.bop .bitOr (N 6) (.bop .bitXor (N 5) (.bop .bitAnd (N 4) (.bop .shr (N 3) (.bop .minus (N 2) (N 1)))))))) := by
  constructor <;> decide +kernel
/-- `nPr` above `== !=` above `=` above `;` -/
theorem top_ladder :
    parse [.ident "a", s .eq, n 1, s .perm, n 2, s .eq2, n 3, s .semi, .ident "a"] =
      some (.stmts (.assign "a" (.equality true (.bop .perm (N 1) (N 2)) (N 3))) (.ident "a")) := by decide +kernel
/-- redundant parentheses only add a `Parens` node around the same tree -/
theorem parens_example : parse [s .openP, n 1, s .add, n 2, s .closeP, s .mul, n 3] = some (.bop .mul (.parens (.bop .plus (N 1) (N 2))) (N 3)) := by
  decide +kernel

/-- F ::= number -/
def fNum (n : String) : FTree :=
  .atom (.num n) (.num n) [] ⟨Or.inl ⟨n, rfl⟩, rfl, Ev.of_add (d := 1) ⟨0, fun _ _ _ _ => rfl⟩⟩

/-- F ::= ( C6 ) -/
def fParen (c : Chain 6) : FTree :=
  .atom (.parens c.toExpr) (.sym .openP) (c.toToks ++ [.sym .closeP]) ⟨Or.inr rfl, rfl, by
    simpa [AsT.toToks, EqT.toToks, semiToks, AsT.toExpr, EqT.toExpr, foldStmts] using paren_atom (.plain (.plain c)) []⟩

/-- C0 ::= A : a sum of products of powers is an operand of the ladder -/
def ofSum (a : ATree) : Chain 0 := .base a.toExpr a.toToks (atree_starts a) (atree_base a)

def num (n : String) : Chain 0 := ofSum (.one (.one (.plain (fNum n))))

def paren (c : Chain 6) : Chain 0 := ofSum (.one (.one (.plain (fParen c))))

/-- **operators bind as the table says, for every tree of the stratified grammar** (built with `fNum`, `fParen`, `FTree.fact`,
`UTree.*`, `MTree.*`, `ATree.*`, `ofSum`, `Chain.up`, `Chain.snoc`): with enough fuel, parsing its text from the statement
level yields exactly the tree and consumes all input -/
theorem roundtrip (c : Chain 6) : ∃ F, ∀ fuel, F ≤ fuel → run fuel .statements c.toToks = some (c.toExpr, []) :=
  (statements_ok (.plain (.plain c)) []).mono fun _ h => by simpa [AsT.toToks, EqT.toToks, semiToks, AsT.toExpr, EqT.toExpr, foldStmts] using h [] (.inl rfl)

/-- adding parentheses around a sub-tree the table already groups only inserts a `Parens` node around the same tree -/
theorem parens_transparent (c : Chain 6) :
    ∃ F, ∀ fuel, F ≤ fuel → run fuel .statements (.sym .openP :: (c.toToks ++ [.sym .closeP])) = some (.parens c.toExpr, []) :=
  roundtrip (.up (.up (.up (.up (.up (.up (paren c)))))))

-- non-vacuity: `1 << 2 & 3 | (4 nCr 5 nCr 6) nPr 7` is such a chain; its tree is ((((1<<2)&3)|((4 nCr 5) nCr 6)) nPr 7
private def ex : Chain 6 :=
  .snoc (.up (.up (.snoc (.up (.up (.snoc (.up (.snoc (.up (num "1")) .shl .shl (by simp [opsLv]) (num "2"))) .bitAnd .bitAnd (by simp [opsLv])
    (.up (num "3"))))) .bitOr .bitOr (by simp [opsLv])
    (.up (.up (.up (paren (.up (.snoc (.snoc (.up (.up (.up (.up (.up (num "4")))))) .comb .comb (by simp [opsLv]) (.up (.up (.up (.up (num "5"))))))
      .comb .comb (by simp [opsLv]) (.up (.up (.up (.up (num "6"))))))))))))))
    .perm .perm (by simp [opsLv]) (.up (.up (.up (.up (.up (num "7"))))))

example : ex.toExpr = .bop .perm (.bop .bitOr (.bop .bitAnd (.bop .shl (.num "1") (.num "2")) (.num "3"))
    (.parens (.bop .comb (.bop .comb (.num "4") (.num "5")) (.num "6")))) (.num "7") := rfl

-- non-vacuity with the arithmetic levels: `-2^3! * (1 + 2) - 4 << 5` is ((((-(2^(3!))) * ((1+2))) - 4) << 5)
private def ex2 : Chain 6 :=
  .up (.up (.up (.up (.up (.snoc (.up (ofSum
    (.snoc (.one (.snoc (.one (.neg (.pow (fNum "2") (.plain (.fact (fNum "3")))))) .mul .mul (by simp [mulOps])
      (.plain (fParen (.up (.up (.up (.up (.up (.up (ofSum (.snoc (.one (.one (.plain (fNum "1")))) .add .plus (by simp [addOps]) (.one (.plain (fNum "2")))))))))))))))
      .sub .minus (by simp [addOps]) (.one (.plain (fNum "4"))))))
    .shl .shl (by simp [opsLv]) (ofSum (.one (.one (.plain (fNum "5"))))))))))

example : ex2.toExpr = .bop .shl (.bop .minus (.bop .mul (.neg (.bop .pow (.num "2") (.fact (.num "3")))) (.parens (.bop .plus (.num "1") (.num "2")))) (.num "4")) (.num "5") := rfl
example : ex2.toToks = [.sym .sub, .num "2", .sym .pow, .num "3", .sym .fact, .sym .mul, .sym .openP, .num "1", .sym .add, .num "2", .sym .closeP,
    .sym .sub, .num "4", .sym .shl, .num "5"] := rfl

/-- **the top of the table** (`==`/`!=` above `=` above `;`): a sequence `a1 ; a2 ; … ; an` in which each `ai` is a complete
operator chain, one comparison of two chains, or (right-nested) assignments of such to identifiers, parses from the statement
level — with enough fuel — to exactly `stmts (… (stmts a1 a2) …) an` with `assign x (…)` and `equality` nodes where the table
puts them, and consumes all input -/
theorem roundtrip_top (a : AsT) (t : List AsT) :
    ∃ F, ∀ fuel, F ≤ fuel → run fuel .statements (a.toToks ++ semiToks t) = some (foldStmts a.toExpr t, []) :=
  (statements_ok a t).mono fun _ h => by simpa using h [] (.inl rfl)

/-- the three fraction layouts the renderer writes (`N/D`, `I N/D`, `-I N/D`) parse — for any digit strings, with any fuel
from 40 up — to the quotient, to the SUM integer part + fraction, and to `(-I) - N/D`: the juxtaposition inside a mixed
fraction is addition, not the multiplication juxtaposition means elsewhere (with C02's `mixed_fraction_roundtrip` this is the
value the renderer started from) -/
theorem fraction_layouts (i n d : String) (g : Nat) :
    run (g + 40) .statements [.num n, .sym .div, .num d] = some (.bop .div (.num n) (.num d), []) ∧
    run (g + 40) .statements [.num i, .num n, .sym .div, .num d] = some (.bop .plus (.num i) (.bop .div (.num n) (.num d)), []) ∧
    run (g + 40) .statements [.sym .sub, .num i, .num n, .sym .div, .num d] =
      some (.bop .minus (.neg (.num i)) (.bop .div (.num n) (.num d)), []) :=
  -- the tactic `rfl` compares the two sides once, the term `rfl` twice
  ⟨by rfl, by rfl, by rfl⟩

/-- **number-unit juxtaposition sits at the multiplicative level**: for every operator of a lower level — `+ - << >> & xor | nCr
nPr` — `a u OP b v` is `(a u) OP (b v)`; with `*` / `/` it groups from the left, `a u * b v` = `((a u) * b) v`; and `^`, `!`,
unary minus bind tighter: `a u^k` = `a (u^k)`, `a u!` = `a (u!)`, `-a u` = `(-a) u`.  For any number strings `a b k` and
any identifiers `u v` (other than the modulo sign `%`), with any fuel from 60 up. -/
theorem juxtaposition_level (a u b v k : String) (hu : u ≠ "%") (hv : v ≠ "%") (g : Nat) :
    (∀ s op, (s, op) ∈ [(Sym.add, Bop.plus), (.sub, .minus), (.shl, .shl), (.shr, .shr), (.bitAnd, .bitAnd), (.bitXor, .bitXor),
        (.bitOr, .bitOr), (.comb, .comb), (.perm, .perm)] →
      run (g + 60) .statements [.num a, .ident u, .sym s, .num b, .ident v] =
        some (.bop op (.applyMul (.num a) (.ident u)) (.applyMul (.num b) (.ident v)), [])) ∧
    run (g + 60) .statements [.num a, .ident u, .sym .mul, .num b, .ident v] =
      some (.apply (.bop .mul (.applyMul (.num a) (.ident u)) (.num b)) (.ident v), []) ∧
    run (g + 60) .statements [.num a, .ident u, .sym .div, .num b, .ident v] =
      some (.apply (.bop .div (.applyMul (.num a) (.ident u)) (.num b)) (.ident v), []) ∧
    run (g + 60) .statements [.num a, .ident u, .ident v] = some (.applyMul (.applyMul (.num a) (.ident u)) (.ident v), []) ∧
    run (g + 60) .statements [.num a, .ident u, .sym .pow, .num k] = some (.apply (.num a) (.bop .pow (.ident u) (.num k)), []) ∧
    run (g + 60) .statements [.num a, .ident u, .sym .fact] = some (.applyMul (.num a) (.fact (.ident u)), []) ∧
    run (g + 60) .statements [.sym .sub, .num a, .ident u] = some (.apply (.neg (.num a)) (.ident u), []) := by
  -- the model looks into a string in one place only, the `%` test on an identifier after an operand: where a shape reaches
  -- it the evaluation needs `hu` / `hv` and is `simp`'s; the shapes of this file that do not reach it hold by `rfl`
  refine ⟨fun s op h => ?_, ?_, ?_, ?_, ?_, ?_, ?_⟩
  · simp only [List.mem_cons, Prod.mk.injEq, List.mem_nil_iff, or_false] at h
    rcases h with ⟨rfl, rfl⟩ | ⟨rfl, rfl⟩ | ⟨rfl, rfl⟩ | ⟨rfl, rfl⟩ | ⟨rfl, rfl⟩ | ⟨rfl, rfl⟩ | ⟨rfl, rfl⟩ | ⟨rfl, rfl⟩ | ⟨rfl, rfl⟩ <;>
      simp [run, leftLoop, symHead, isNum, isApplyMul, hu, hv]
  all_goals simp [run, leftLoop, symHead, isNum, hu, hv]

/-- further shapes, symbolic in their strings: an implicit sum of two quantities (`5 ft 3 in`) is one `implicitPlus` of two
juxtapositions; `to` applies to everything on its left down to the additive level (`a u + b v to w` converts the SUM); a
function name followed by a number is an application -/
theorem more_shapes (a u b v w f : String) (hu : u ≠ "%") (hv : v ≠ "%") (hw : w ≠ "%") (g : Nat) :
    run (g + 60) .statements [.num a, .ident u, .num b, .ident v] =
      some (.bop .implicitPlus (.applyMul (.num a) (.ident u)) (.applyMul (.num b) (.ident v)), []) ∧
    run (g + 60) .statements [.num a, .ident u, .sym .conv, .ident v] = some (.as_ (.applyMul (.num a) (.ident u)) (.ident v), []) ∧
    run (g + 60) .statements [.num a, .ident u, .sym .add, .num b, .ident v, .sym .conv, .ident w] =
      some (.as_ (.bop .plus (.applyMul (.num a) (.ident u)) (.applyMul (.num b) (.ident v))) (.ident w), []) ∧
    run (g + 60) .statements [.ident f, .num a] = some (.applyFn (.ident f) (.num a), []) := by
  refine ⟨?_, ?_, ?_, by rfl⟩ <;> simp [run, leftLoop, symHead, isNum, isApplyMul, hu, hv]

/-- unary plus and division signs, chained `to` (left-nested), a lambda body extending to the right, and the two meetings of
unary minus with `^`: `-a^b` is `-(a^b)` (power binds tighter on its left) while `a^-b` is `a^(-b)` -/
theorem unary_lambda_shapes (a b u v x : String) (hu : u ≠ "%") (hv : v ≠ "%") (hx : x ≠ "%") (g : Nat) :
    run (g + 60) .statements [.sym .add, .num a] = some (.pos (.num a), []) ∧
    run (g + 60) .statements [.sym .div, .num a] = some (.udiv (.num a), []) ∧
    run (g + 60) .statements [.num a, .sym .conv, .ident u, .sym .conv, .ident v] = some (.as_ (.as_ (.num a) (.ident u)) (.ident v), []) ∧
    run (g + 60) .statements [.ident x, .sym .fn_, .ident x, .sym .add, .num a] = some (.fn_ x (.bop .plus (.ident x) (.num a)), []) ∧
    run (g + 60) .statements [.sym .sub, .num a, .sym .pow, .num b] = some (.neg (.bop .pow (.num a) (.num b)), []) ∧
    run (g + 60) .statements [.num a, .sym .pow, .sym .sub, .num b] = some (.bop .pow (.num a) (.neg (.num b)), []) :=
  ⟨by rfl, by rfl, by rfl, by rfl, by rfl, by rfl⟩

-- non-vacuity: `a = b = 1 == 2 ; 3 != 4 ; 5` is stmts (stmts (assign a (assign b (1 == 2))) (3 != 4)) 5
private def c6 (n : String) : Chain 6 := .up (.up (.up (.up (.up (.up (num n))))))
private def exTop : AsT := .assign "a" (.assign "b" (.plain (.cmp true (c6 "1") (c6 "2"))))
private def exRest : List AsT := [.plain (.cmp false (c6 "3") (c6 "4")), .plain (.plain (c6 "5"))]

example : foldStmts exTop.toExpr exRest
    = .stmts (.stmts (.assign "a" (.assign "b" (.equality true (.num "1") (.num "2")))) (.equality false (.num "3") (.num "4"))) (.num "5") := rfl
example : exTop.toToks ++ semiToks exRest = [.ident "a", .sym .eq, .ident "b", .sym .eq, .num "1", .sym .eq2, .num "2", .sym .semi,
    .num "3", .sym .ne, .num "4", .sym .semi, .num "5"] := rfl

end Fend.C08
