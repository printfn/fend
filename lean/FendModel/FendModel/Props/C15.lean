/-
C15 — elementary functions are accurate, flagged, and exact at special points.
What a theorem can carry here is the decision logic: the table of exact trigonometric points against the real
sine and cosine (Mathlib), and the error of the f64 -> rational bridge.  How accurate libm is cannot be proved
in this model and is measured by the correspondence run against a 60-digit reference.
-/
import FendModel.Model.Elementary
import Mathlib.Analysis.SpecialFunctions.Trigonometric.Basic
import Mathlib.Tactic.Ring
import Mathlib.Tactic.Linarith
import Mathlib.Tactic.NormNum

namespace Fend.C15
open Fend.Elem Real

theorem sin_of_mod {m r : ℕ} (h : m % 12 = r) : sin ((m : ℝ) * π / 6) = sin ((r : ℝ) * π / 6) := by
  have hm := congrArg (Nat.cast (R := ℝ)) (Nat.mod_add_div m 12)
  rw [h, Nat.cast_add, Nat.cast_mul] at hm
  rw [← hm, show ((r : ℝ) + ((12 : ℕ) : ℝ) * ((m / 12 : ℕ) : ℝ)) * π / 6 = (r : ℝ) * π / 6 + ((m / 12 : ℕ) : ℝ) * (2 * π) by
    push_cast; ring, sin_add_nat_mul_two_pi]

theorem sinTable_mod (m : Nat) : sinTable m = sinTable (m % 12) := by
  unfold sinTable
  rw [Nat.mod_mod_of_dvd m (by decide : 6 ∣ 12), Nat.mod_mod]

/-- with the casts in which `sin_table_correct` meets them -/
theorem sin_rows :
    sin ((0 : ℕ) * π / 6) = (0 : ℚ) ∧ sin ((1 : ℕ) * π / 6) = (1 / 2 : ℚ) ∧ sin ((3 : ℕ) * π / 6) = (1 : ℚ) ∧
    sin ((5 : ℕ) * π / 6) = (1 / 2 : ℚ) ∧ sin ((6 : ℕ) * π / 6) = (0 : ℚ) ∧ sin ((7 : ℕ) * π / 6) = (-1 / 2 : ℚ) ∧
    sin ((9 : ℕ) * π / 6) = (-1 : ℚ) ∧ sin ((11 : ℕ) * π / 6) = (-1 / 2 : ℚ) := by
  push_cast
  refine ⟨by simp, by rw [one_mul, sin_pi_div_six], ?_, ?_, ?_, ?_, ?_, ?_⟩
  · rw [show (3 : ℝ) * π / 6 = π / 2 by ring, sin_pi_div_two]
  · rw [show (5 : ℝ) * π / 6 = π - π / 6 by ring, sin_pi_sub, sin_pi_div_six]
  · rw [show (6 : ℝ) * π / 6 = π by ring, sin_pi]
  · rw [show (7 : ℝ) * π / 6 = π / 6 + π by ring, sin_add_pi, sin_pi_div_six, neg_div]
  · rw [show (9 : ℝ) * π / 6 = π / 2 + π by ring, sin_add_pi, sin_pi_div_two]
  · rw [show (11 : ℝ) * π / 6 = (π - π / 6) + π by ring, sin_add_pi, sin_pi_sub, sin_pi_div_six, neg_div]

/-- **every exact point the code knows is right**: whenever `Real::sin` answers a multiple `m·π/6` from its
table, the answer is the real sine -/
theorem sin_table_correct (m : Nat) (q : Rat) (h : sinTable m = some q) : sin ((m : ℝ) * π / 6) = (q : ℝ) := by
  obtain ⟨r0, r1, r3, r5, r6, r7, r9, r11⟩ := sin_rows
  -- one goal per branch of `sinTable`'s ladder, with the branch's test as `h` (`fun_cases` rewrites the call in the goal only,
  -- hence the `revert`); the test fixes `m % 12`, and `sin_of_mod` takes the angle to that row
  revert h
  fun_cases sinTable m <;> rintro ⟨⟩
  case case1 h =>
    obtain h | h : m % 12 = 0 ∨ m % 12 = 6 := by omega
    · exact (sin_of_mod h).trans r0
    · exact (sin_of_mod h).trans r6
  case case2 h => exact (sin_of_mod h).trans r3
  case case3 h => exact (sin_of_mod h).trans r9
  case case4 h => exact h.elim (fun h => (sin_of_mod h).trans r1) fun h => (sin_of_mod h).trans r5
  case case5 h => exact h.elim (fun h => (sin_of_mod h).trans r7) fun h => (sin_of_mod h).trans r11

theorem cast_toNat {m : ℤ} (h : 0 ≤ m) : ((m.toNat : ℕ) : ℝ) = (m : ℝ) := by
  rw [← Int.cast_natCast, Int.toNat_of_nonneg h]

/-- … also for negative multiples … -/
theorem sinPi_correct (m : Int) (q : Rat) (h : sinPi m = some q) : sin ((m : ℝ) * π / 6) = (q : ℝ) := by
  unfold sinPi at h
  split at h
  · obtain ⟨p, hp, rfl⟩ := Option.map_eq_some_iff.mp h
    have := sin_table_correct _ p hp
    rw [cast_toNat (by omega), Int.cast_neg, neg_mul, neg_div, sin_neg] at this
    rw [Rat.cast_neg, ← this, neg_neg]
  · rw [← cast_toNat (by omega : 0 ≤ m)]
    exact sin_table_correct _ q h

/-- … and for the cosine, which the code computes as `sin (x + π/2)` -/
theorem cosPi_correct (m : Int) (q : Rat) (h : cosPi m = some q) : cos ((m : ℝ) * π / 6) = (q : ℝ) := by
  unfold cosPi at h
  have := sinPi_correct (m + 3) q h
  rw [← this]
  have : (((m + 3 : Int)) : ℝ) * π / 6 = (m : ℝ) * π / 6 + π / 2 := by push_cast; ring
  rw [this, sin_add_pi_div_two]

/-- the documented exact points ARE in the table: multiples of π/2, and the multiples of π/6 whose sine is ±1/2 -/
theorem documented_points : sinTable 0 = some 0 ∧ sinTable 1 = some (1 / 2) ∧ sinTable 3 = some 1 ∧ sinTable 5 = some (1 / 2) ∧
    sinTable 6 = some 0 ∧ sinTable 7 = some (-1 / 2) ∧ sinTable 9 = some (-1) ∧ sinTable 11 = some (-1 / 2) ∧
    (∀ k : Nat, (sinTable (3 * k)).isSome = true) := by
  refine ⟨rfl, rfl, rfl, rfl, rfl, rfl, rfl, rfl, fun k => ?_⟩
  rw [sinTable_mod, Nat.mul_mod_mul_left 3 k 4]
  exact (by decide : ∀ r < 4, (sinTable (3 * r)).isSome = true) _ (Nat.mod_lt k (by decide))

theorem cast_div_cell (a D : ℕ) (hD : 0 < D) : ((a / D : ℕ) : ℚ) ≤ a / D ∧ (a : ℚ) / D < (a / D : ℕ) + 1 := by
  refine ⟨Nat.cast_div_le, ?_⟩
  rw [div_lt_iff₀' (by exact_mod_cast hD)]
  exact_mod_cast Nat.lt_mul_div_succ a hD

theorem reread_cell (n p1 p2 : ℚ) (hn : 1 < n) (h0 : 0 ≤ p1) (h1 : p1 ≤ n - 1) :
    (p1 + p2 * n) / n ≤ (p1 + p2 * (n - 1)) / (n - 1) ∧
    (p1 + p2 * (n - 1)) / (n - 1) ≤ (p1 + p2 * n + 1) / n := by
  have hn0 : 0 < n := zero_lt_one.trans hn
  have hn1 : 0 < n - 1 := sub_pos.mpr hn
  constructor
  · rw [div_le_div_iff₀ hn0 hn1]; linarith
  · rw [div_le_div_iff₀ hn1 hn0]; linarith

/-- the fixed-point branch of `from_f64` in any base `N` (fend: `2^64`): `i = ⌊f·N⌋` is split into its last base-`N`
digit and the rest, and the digit is then divided by `N - 1` instead of `N`.  The floor keeps `f`, and the wrong
divisor keeps the result, inside the cell `[i/N, (i+1)/N]`. -/
theorem fixed_close (N i : ℕ) (f : ℚ) (hN : 1 < N) (h1 : (i : ℚ) ≤ f * N) (h2 : f * N < i + 1) :
    |(((i % N : ℕ) : ℚ) + (i / N : ℕ) * ((N : ℚ) - 1)) / ((N : ℚ) - 1) - f| ≤ 1 / N := by
  have hN0 : (0 : ℚ) < N := Nat.cast_pos.mpr (by omega)
  have hp1 : ((i % N : ℕ) : ℚ) ≤ (N : ℚ) - 1 := by
    rw [le_sub_iff_add_le]; exact_mod_cast Nat.mod_lt i (by omega)
  have hsplit : ((i % N : ℕ) : ℚ) + (i / N : ℕ) * (N : ℚ) = i := by
    rw [mul_comm]; exact_mod_cast Nat.mod_add_div i N
  have hc := reread_cell N (i % N : ℕ) (i / N : ℕ) (Nat.one_lt_cast.mpr hN) (Nat.cast_nonneg _) hp1
  rw [hsplit] at hc
  have := abs_sub_le_of_le_of_le hc.1 hc.2 ((div_le_iff₀ hN0).mpr h1) ((lt_div_iff₀ hN0).mpr h2).le
  rwa [add_div (i : ℚ), add_sub_cancel_left] at this

/-- **the f64 -> rational bridge loses less than 2^-63** (absolute) on every float `mant / 2^k`; floats of 2^64 or
more are decoded exactly and infinities / NaN are an error (below) -/
theorem fixedOf_close (mant k : Nat) : |fixedOf mant k - (mant : Rat) / 2 ^ k| < 1 / 2 ^ 63 := by
  have hc := cast_div_cell (mant * 18446744073709551616) (2 ^ k) (by positivity)
  push_cast at hc
  have h := fixed_close 18446744073709551616 _ ((mant : ℚ) / 2 ^ k) (by norm_num)
    (by rw [div_mul_eq_mul_div]; exact hc.1) (by rw [div_mul_eq_mul_div]; exact hc.2)
  have e : ((18446744073709551616 : ℕ) : ℚ) - 1 = 18446744073709551615 := by norm_num
  rw [e] at h
  exact lt_of_le_of_lt h (by norm_num)

/-- a float of 2^64 or more passes through unchanged, and a non-finite one is an error: nothing saturates -/
theorem fromF64_large_exact (bits m up down : Nat) (hd : decodeParts bits = some (m, up, down))
    (hbig : m * 2 ^ up ≥ 18446744073709551616 * 2 ^ down) : fromF64 bits = .ok ((m : Rat) * 2 ^ up / 2 ^ down) := by
  simp [fromF64, hd, hbig]

theorem fromF64_nonfinite (bits : Nat) (hd : decodeParts bits = none) : fromF64 bits = .error .valueTooLarge := by
  simp [fromF64, hd]

-- tests on instances: 1.0, 2^64, +inf
example : decodeParts 0x3FF0000000000000 = some (4503599627370496, 0, 52) ∧ decodeParts 0x43F0000000000000 = some (4503599627370496, 12, 0) ∧
    decodeParts 0x7FF0000000000000 = none := by
  decide +kernel

end Fend.C15
