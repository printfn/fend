/-
C10 — integer-domain functions agree with exact big-integer mathematics.
Proved here for all arguments: fibonacci, factorial, one-bit and multi-bit shifts (`<<`, `>>`:
`self * 2^n`, `self / 2^n` for every word-sized count), bitwise and/or/xor, floor / ceil /
round (the rounding decision and the whole of `round_with`), the greedy roman-numeral decomposition, nCr / nPr / mod on natural-number
arguments (binomial coefficient, falling factorial, remainder; the documented error exactly when r > n or
the modulus is zero).  Carried by correspondence + oracle only (stated in the evidence): words,
char/codepoint, and the argument-validation glue for non-natural arguments.
-/
import FendModel.Proofs.IntFns
import FendModel.Proofs.BigUintShift
import FendModel.Proofs.BigUintBitwise
import Mathlib.Data.Nat.Choose.Cast

namespace Fend.C10
open Fend Fend.BigUint

theorem fibonacci_exact (n : Nat) : val (fibonacci n) = fibSpec n := by
  fun_cases fibonacci n with
  | case1 h0 => subst h0; rfl
  | case2 _ h1 => subst h1; rfl
  | case3 h0 h1 => rw [fibLoop_spec (n - 1) (small 0) (small 1) 0 rfl rfl]; congr 1; omega

theorem factorial_exact (n : BigUint) (hn : n.WF) :
    ∃ r, factorial n = .ok r ∧ val r = factSpec (val n) := factorial_val n hn

theorem shl1_exact (a : BigUint) (ha : a.WF) (hne : a.limbs ≠ []) :
    ∃ r, a.lshift = .ok r ∧ val r = 2 * val a ∧ r.WF :=
  let ⟨r, hr, hv, hw, _⟩ := lshift_spec a ha hne
  ⟨r, hr, hv, hw⟩

theorem shr1_exact (a : BigUint) (ha : a.WF) : val a.rshift = val a / 2 ∧ a.rshift.WF :=
  rshift_val a ha

/-- `a << n` is `a * 2^n` for every shift count that fits a machine word (whole-limb splice plus
`n % 64` one-bit shifts), and never panics -/
theorem shl_exact (a n : BigUint) (ha : a.WF) (hne : a.limbs ≠ []) (hf : n.fitsU64 = true) :
    ∃ r, lshiftN a n = .ok r ∧ val r = val a * 2 ^ val n ∧ r.WF := lshiftN_val a n ha hne hf

/-- `a >> n` is `⌊a / 2^n⌋` (the loop's early exit at zero does not change the value) -/
theorem shr_exact (a n : BigUint) (ha : a.WF) (hf : n.fitsU64 = true) :
    ∃ r, rshiftN a n = .ok r ∧ val r = val a / 2 ^ val n ∧ r.WF := rshiftN_val a n ha hf

/-- `n nCr r` is the binomial coefficient; `outOfRange` exactly when r > n -/
theorem nCr_exact (a b : BigUint) (ha : a.WF) (hb : b.WF) :
    (val b ≤ val a → ∃ q, BigRat.combination (BigRat.ofUint a) (BigRat.ofUint b) = .ok q ∧
        BigRat.valQ q = ((val a).choose (val b) : Nat)) ∧
    (val a < val b → BigRat.combination (BigRat.ofUint a) (BigRat.ofUint b) = .error .outOfRange) := by
  obtain ⟨nf, hnf, rn⟩ := BigRat.factorial_nat a ha
  obtain ⟨rf, hrf, rr⟩ := BigRat.factorial_nat b hb
  obtain ⟨hle, hlt⟩ := BigRat.factorial_sub_nat a b ha hb
  refine ⟨fun h => ?_, fun h => ?_⟩
  · obtain ⟨d, df, hd, hdf, rd⟩ := hle h
    -- `r! (n-r)!` is not zero, so the division goes through; `Nat.cast_choose` is the quotient formula in `ℚ`
    obtain ⟨q, hq, hqr⟩ := rn.div_of_ne (rr.mul rd)
      (mul_ne_zero (Nat.cast_ne_zero.mpr (Nat.factorial_ne_zero _)) (Nat.cast_ne_zero.mpr (Nat.factorial_ne_zero _)))
    exact ⟨q, by simp only [BigRat.combination, hnf, hrf, hd, hdf, hq, ok_bind], by rw [hqr.val_eq, Nat.cast_choose Rat h]⟩
  · obtain ⟨d, hd, hdf⟩ := hlt h
    simp only [BigRat.combination, hnf, hrf, hd, hdf, ok_bind, error_bind]

/-- `n nPr r` is n (n-1) ... (n-r+1); `outOfRange` exactly when r > n -/
theorem nPr_exact (a b : BigUint) (ha : a.WF) (hb : b.WF) :
    (val b ≤ val a → ∃ q, BigRat.permutation (BigRat.ofUint a) (BigRat.ofUint b) = .ok q ∧
        BigRat.valQ q = ((val a).descFactorial (val b) : Nat)) ∧
    (val a < val b → BigRat.permutation (BigRat.ofUint a) (BigRat.ofUint b) = .error .outOfRange) := by
  obtain ⟨nf, hnf, rn⟩ := BigRat.factorial_nat a ha
  obtain ⟨hle, hlt⟩ := BigRat.factorial_sub_nat a b ha hb
  have hr : BigRat.asUint (BigRat.ofUint b) = .ok b := BigRat.asUint_den1 false b hb
  refine ⟨fun h => ?_, fun h => ?_⟩
  · obtain ⟨d, df, hd, hdf, rd⟩ := hle h
    have hdf0 : (((val a - val b).factorial : Nat) : Rat) ≠ 0 := Nat.cast_ne_zero.mpr (Nat.factorial_ne_zero _)
    obtain ⟨q, hq, hqr⟩ := rn.div_of_ne rd hdf0
    refine ⟨q, by simp only [BigRat.permutation, hr, hnf, hd, hdf, hq, ok_bind], ?_⟩
    rw [hqr.val_eq, div_eq_iff hdf0]
    exact_mod_cast (Nat.factorial_mul_descFactorial h).symm.trans (Nat.mul_comm _ _)
  · obtain ⟨d, hd, hdf⟩ := hlt h
    simp only [BigRat.permutation, hr, hnf, hd, hdf, ok_bind, error_bind]

/-- `a mod b` is the remainder; `moduloByZero` exactly for b = 0 -/
theorem mod_exact (a b : BigUint) (ha : a.WF) (hb : b.WF) :
    (val b = 0 → BigRat.modulo (BigRat.ofUint a) (BigRat.ofUint b) = .error .moduloByZero) ∧
    (val b ≠ 0 → ∃ r, BigRat.modulo (BigRat.ofUint a) (BigRat.ofUint b) = .ok ⟨false, r, .small 1⟩ ∧ val r = val a % val b) := by
  have hz : BigRat.numIsZero (BigRat.ofUint b) = decide (val b = 0) := BigRat.numIsZero_eq (BigRat.ofUint b) hb
  rw [BigRat.modulo, hz]
  refine ⟨fun h0 => by rw [if_pos (decide_eq_true h0)], fun h0 => ?_⟩
  obtain ⟨q, r, hqr, -, hr, -⟩ := divmod_val a b ha hb h0
  refine ⟨r, ?_, hr⟩
  rw [if_neg (by rwa [decide_eq_true_eq]), BigRat.ofUint, BigRat.ofUint, BigRat.simplify_den1, BigRat.simplify_den1, ok_bind,
    ok_bind]
  simp only [BigRat.denIsOne_den1, Bool.false_and, Bool.not_true, Bool.or_self, Bool.false_eq_true, if_false, hqr, ok_bind]

/-- bitwise `&`, `|`, `xor` on limb vectors of any two lengths are the bitwise operations on the values -/
theorem and_exact (a b r : BigUint) (ha : a.WF) (hb : b.WF) (h : bitwiseAnd a b = .ok r) : val r = val a &&& val b := and_val a b r ha hb h
theorem or_exact (a b r : BigUint) (ha : a.WF) (hb : b.WF) (h : bitwiseOr a b = .ok r) : val r = val a ||| val b := or_val a b r ha hb h
theorem xor_exact (a b r : BigUint) (ha : a.WF) (hb : b.WF) (h : bitwiseXor a b = .ok r) : val r = val a ^^^ val b := xor_val a b r ha hb h

/-- floor: with `|x| = q + r/den`, the signed result `z` satisfies `z ≤ x < z + 1` -/
theorem floor_decision (neg : Bool) (q r den : Nat) (hr : r < den) :
    let m := BigRat.roundMag .floor neg q r den
    let x : Int := if neg then -((q * den + r : Nat) : Int) else ((q * den + r : Nat) : Int)
    let z : Int := if neg then -(m : Int) else (m : Int)
    z * den ≤ x ∧ x < (z + 1) * den := by
  cases neg <;> by_cases h0 : r = 0 <;>
    simp only [BigRat.roundMag, BigRat.awayFromZero, h0, if_true, if_false, Bool.false_eq_true] <;> push_cast <;>
    simp only [Int.add_mul, Int.neg_mul, Int.one_mul] <;> omega

theorem ceil_decision (neg : Bool) (q r den : Nat) (hr : r < den) :
    let m := BigRat.roundMag .ceil neg q r den
    let x : Int := if neg then -((q * den + r : Nat) : Int) else ((q * den + r : Nat) : Int)
    let z : Int := if neg then -(m : Int) else (m : Int)
    (z - 1) * den < x ∧ x ≤ z * den := by
  -- the ceiling of `x` is minus the floor of `-x`: `ceil` rounds the magnitude up exactly where `floor` does for the other sign
  have e : BigRat.roundMag .ceil neg q r den = BigRat.roundMag .floor (!neg) q r den := rfl
  have h := floor_decision (!neg) q r den hr
  cases neg <;>
    simp only [e, Bool.not_true, Bool.not_false, if_true, if_false, Bool.false_eq_true, Int.add_mul, Int.sub_mul, Int.neg_mul,
      Int.one_mul] at h ⊢ <;> omega

/-- round: nearest integer, ties away from zero -/
theorem round_decision (neg : Bool) (q r den : Nat) (hr : r < den) :
    let m := BigRat.roundMag .round neg q r den
    (2 * (q * den + r) ≤ 2 * m * den + den ∧ 2 * m * den ≤ 2 * (q * den + r) + den)
    ∧ (2 * r = den → m = q + 1) := by
  by_cases h : 2 * r < den
  · simp only [BigRat.roundMag, BigRat.awayFromZero, Nat.compare_eq_lt.mpr h, bne_self_eq_false, Bool.false_eq_true, if_false,
      ite_self, Nat.mul_assoc]
    omega
  · have h0 : r ≠ 0 := by omega
    have hc : (compare (2 * r) den != .lt) = true := by rwa [bne_iff_ne, ne_eq, Nat.compare_eq_lt]
    simp only [BigRat.roundMag, BigRat.awayFromZero, hc, h0, if_true, if_false, Nat.mul_assoc, Nat.add_mul, Nat.one_mul,
      implies_true, and_true]
    omega

/-- `floor x` as computed (exact division, half-way comparison, increment): the integer z with z ≤ x < z + 1, for EVERY
rational x = ±num/den in any representation -/
theorem floor_exact (x : BigRat) (wx : BigRat.WFQ x) (dx : val x.den ≠ 0) :
    ∃ n, BigRat.roundWith .floor x = .ok ⟨x.neg, n, .small 1⟩ ∧
      (let xi : Int := if x.neg then -(val x.num : Int) else (val x.num : Int)
       let z : Int := if x.neg then -(val n : Int) else (val n : Int)
       z * (val x.den : Int) ≤ xi ∧ xi < (z + 1) * (val x.den : Int)) := by
  obtain ⟨n, hn, _, hv⟩ := BigRat.roundWith_val .floor x wx dx
  refine ⟨n, hn, ?_⟩
  have h := floor_decision x.neg (val x.num / val x.den) (val x.num % val x.den) (val x.den)
    (Nat.mod_lt _ (Nat.pos_of_ne_zero dx))
  rwa [← hv, Nat.div_add_mod' (val x.num) (val x.den)] at h

/-- `ceil x`: the integer z with z - 1 < x ≤ z -/
theorem ceil_exact (x : BigRat) (wx : BigRat.WFQ x) (dx : val x.den ≠ 0) :
    ∃ n, BigRat.roundWith .ceil x = .ok ⟨x.neg, n, .small 1⟩ ∧
      (let xi : Int := if x.neg then -(val x.num : Int) else (val x.num : Int)
       let z : Int := if x.neg then -(val n : Int) else (val n : Int)
       (z - 1) * (val x.den : Int) < xi ∧ xi ≤ z * (val x.den : Int)) := by
  obtain ⟨n, hn, _, hv⟩ := BigRat.roundWith_val .ceil x wx dx
  refine ⟨n, hn, ?_⟩
  have h := ceil_decision x.neg (val x.num / val x.den) (val x.num % val x.den) (val x.den)
    (Nat.mod_lt _ (Nat.pos_of_ne_zero dx))
  rwa [← hv, Nat.div_add_mod' (val x.num) (val x.den)] at h

/-- `round x`: the nearest integer, ties away from zero -/
theorem round_exact (x : BigRat) (wx : BigRat.WFQ x) (dx : val x.den ≠ 0) :
    ∃ n, BigRat.roundWith .round x = .ok ⟨x.neg, n, .small 1⟩ ∧
      (2 * val x.num ≤ 2 * val n * val x.den + val x.den ∧ 2 * val n * val x.den ≤ 2 * val x.num + val x.den) ∧
      (2 * (val x.num % val x.den) = val x.den → val n = val x.num / val x.den + 1) := by
  obtain ⟨n, hn, _, hv⟩ := BigRat.roundWith_val .round x wx dx
  refine ⟨n, hn, ?_⟩
  have h := round_decision x.neg (val x.num / val x.den) (val x.num % val x.den) (val x.den)
    (Nat.mod_lt _ (Nat.pos_of_ne_zero dx))
  rwa [← hv, Nat.div_add_mod' (val x.num) (val x.den)] at h

/-- the greedy roman decomposition over any value list ending in 1 denotes the number -/
theorem roman_denotes (vals : List Nat) (n : Nat) :
    ((vals ++ [1]).foldl IntFns.romanStepValue (0, n)).1 = n := by
  have h := IntFns.romanStepValue_inv (vals ++ [1]) 0 n
  rw [List.foldl_append] at h ⊢
  simp only [List.foldl_cons, List.foldl_nil, IntFns.romanStepValue, Nat.div_one, Nat.mul_one, Nat.sub_self] at h ⊢
  omega

/-- kernel-checked examples (tests, not the universal claim) -/
theorem examples :
    IntFns.toRoman 1994 = "MCMXCIV".toList.map Char.toNat ∧
    IntFns.toRoman 4000 = [73, 0x305, 86, 0x305] ∧
    IntFns.roman 0 = .zero ∧ IntFns.roman 1000000001 = .outOfRange ∧
    IntFns.charOf 0xD800 = none ∧ IntFns.charOf 0x10FFFF = some 0x10FFFF ∧ IntFns.charOf 0x110000 = none := by
  decide +kernel

example : (BigUint.large [0, 1]).WF ∧ (BigUint.large [0, 1]).limbs ≠ [] := by
  simp [WF, limbs, B]

end Fend.C10
