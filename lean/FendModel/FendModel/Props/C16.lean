/-
C16 — calendar arithmetic follows the proleptic Gregorian calendar.
Spec side: the ordinal-day calendar (`ordinal`, `Real`, `specMonthLen`) of Model/Date.lean, which
does not use the code's formulas. The theorems are for every real date of year ≥ 1, within the bounds where fend
itself does not overflow or leave the specification: `next` and the weekdays of consecutive days need
`year < i32::MAX`, adding `n` days needs `year + n < i32::MAX` (a crude bound that keeps every step below the
limit), subtracting `n` months needs the month arrived at to lie in year ≥ 1 (`12 ≤ 12 * year + month - 1 - n`).
-/
import FendModel.Proofs.Date

namespace Fend.C16
open Fend.Date

/-- a date literal the parser accepts names a real Gregorian date with 1000 ≤ year ≤ i32::MAX -/
theorem literal_sound (cs : List Nat) (d : Date) (h : parseDate cs = some d) :
    Real d ∧ 1000 ≤ d.year ∧ d.year ≤ i32Max := by
  unfold parseDate at h
  obtain ⟨⟨y, cs⟩, hy, h⟩ := Option.bind_eq_some_iff.mp h
  dsimp only at h
  split at h
  case h_2 => cases h
  obtain ⟨hy', h⟩ := Option.ite_none_left_eq_some.mp h
  obtain ⟨⟨m, cs⟩, -, h⟩ := Option.bind_eq_some_iff.mp h
  split at h
  case h_2 => cases h
  obtain ⟨hm, h⟩ := Option.ite_none_left_eq_some.mp h
  obtain ⟨⟨dd, cs⟩, -, h⟩ := Option.bind_eq_some_iff.mp h
  obtain ⟨hd, h⟩ := Option.ite_none_left_eq_some.mp h
  obtain ⟨-, h⟩ := Option.ite_none_right_eq_some.mp h
  cases h
  have := parseNum_le _ _ _ hy
  rw [monthLen_eq m y (by omega) (by omega) (by omega)] at hd
  simp only [Real, i32Max]
  omega

/-- `next` is the next ordinal day, stays real, never panics below the i32 year limit -/
theorem next_ordinal (d : Date) (h : Real d) (hmax : d.year < i32Max) :
    ∃ d', next d = some d' ∧ ordinal d' = ordinal d + 1 ∧ Real d' :=
  let ⟨d', hn, ho, hr, _⟩ := next_spec d h hmax
  ⟨d', hn, ho, hr⟩

/-- `prev (next d) = d` -/
theorem prev_next_id (d : Date) (h : Real d) (hmax : d.year < i32Max) :
    ∃ d', next d = some d' ∧ prev d' = some d := prev_next d h hmax

/-- adding n days then subtracting n days returns the same date; the walk moves n ordinal days -/
theorem add_sub_days (n : Nat) (d : Date) (h : Real d) (hmax : d.year + n < i32Max) :
    ∃ d', addDays n d = some d' ∧ ordinal d' = ordinal d + n ∧ Real d' ∧ subDays n d' = some d := by
  induction n generalizing d with
  | zero => exact ⟨d, rfl, by simp, h, rfl⟩
  | succ n ih =>
    obtain ⟨d1, hn, ho, hr, hp, hy⟩ := next_spec d h (by omega)
    obtain ⟨d', ha, ho', hr', hs⟩ := ih d1 hr (by omega)
    exact ⟨d', by rw [addDays, hn]; exact ha, by rw [ho', ho]; push_cast; omega, hr',
      by rw [subDays_snoc, hs]; exact hp⟩

/-- the weekday is the true one: ordinal day mod 7 with 0001-01-01 a Monday (0 = Sunday) -/
theorem weekday_correct (d : Date) (h : Real d) :
    dayOfWeek d = some ((ordinal d) % 7).toNat := dayOfWeek_spec d h

/-- consecutive days have consecutive weekdays, across every kind of boundary -/
theorem weekday_consecutive (d : Date) (h : Real d) (hmax : d.year < i32Max) :
    ∃ d' w, next d = some d' ∧ dayOfWeek d = some w ∧ dayOfWeek d' = some ((w + 1) % 7) :=
  weekday_succ d h hmax

/-- subtracting n months (n years = 12 n months) lands on the calendar-correct date or reports
that it does not exist -/
theorem sub_months (d : Date) (n : Nat) (h : Real d) (hr : 12 ≤ 12 * d.year + d.month - 1 - n) :
    ∃ (y' : Int) (m' : Nat), 1 ≤ m' ∧ m' ≤ 12 ∧ 1 ≤ y' ∧
      12 * y' + (m' : Int) - 1 = 12 * d.year + d.month - 1 - n ∧
      diffMonthsBack d n = (if d.day ≤ specMonthLen m' y'
        then .ok { year := y', month := m', day := d.day } else .nonExistent y' m' d.day) := by
  obtain ⟨hy, hm1, hm2, hd1, hd2⟩ := h
  unfold diffMonthsBack
  rw [yearsBack_spec (n / 12) d.year (by omega)]
  dsimp only
  obtain ⟨y', m', he, hm1', hm2', hidx⟩ := monthsBack_spec (n % 12) (d.year - ↑(n / 12)) d.month hm1 hm2 _
    (by omega : 12 * d.year + d.month - 1 - n = _) hr
  rw [he]
  have hy' : 1 ≤ y' := by omega   -- the month index `hidx` is at least 12 (`hr`) and `m' ≤ 12`
  refine ⟨y', m', hm1', hm2', hy', hidx, ?_⟩
  dsimp only
  rw [monthLen_eq m' y' (Int.le_of_lt hy') hm1' hm2']
  simp only [gt_iff_lt, ← Nat.not_le, ite_not]   -- the code tests `d.day > …`, the negation of the test above

/-- the anchor of the ordinal calendar, and known dates, as kernel-checked sanity tests -/
theorem anchors :
    ordinal ⟨1, 1, 1⟩ = 1 ∧ dayOfWeek ⟨1, 1, 1⟩ = some 1 ∧
    dayOfWeek ⟨1970, 1, 1⟩ = some 4 ∧ dayOfWeek ⟨2000, 2, 29⟩ = some 2 ∧
    dayOfWeek ⟨1900, 3, 1⟩ = some 4 ∧ ordinal ⟨1970, 1, 1⟩ = 719163 := by decide

/-- literals that must be rejected / accepted (tests, not the universal claim) -/
theorem literal_examples :
    parseDate ("2024-02-30".toList.map Char.toNat) = none ∧
    parseDate ("1900-02-29".toList.map Char.toNat) = none ∧
    parseDate ("2000-02-29".toList.map Char.toNat) = some ⟨2000, 2, 29⟩ ∧
    parseDate ("0999-12-31".toList.map Char.toNat) = none ∧
    parseDate ("2024-13-01".toList.map Char.toNat) = none ∧
    parseDate ("2024-2-3".toList.map Char.toNat) = some ⟨2024, 2, 3⟩ := by
  -- a literal is `String.ofList` of its characters: the parser is run on those, and no string is decoded
  repeat rw [String.toList_ofList]
  decide

-- non-vacuity: a leap day at a 400-year boundary meets every hypothesis used above
example : Real ⟨2000, 2, 29⟩ ∧ (2000 : Int) + 1000000 < i32Max ∧
    (12 : Int) ≤ 12 * 2000 + 2 - 1 - 13 := by decide

end Fend.C16
