/-
C20 — a damaged exchange-rate cache cannot crash fend or yield wrong rates.
Every stage of the cache reader (framing, line and file parsers, lookup) gets one specification, `Sound P`: it
returns an ordinary error or a value of which `P` holds, never a panic. `P` says that the texts reported are pieces
of the input and, for the framing, that what is handed on is valid UTF-8, which is all the UN parser needs for its
slices (Proofs/XRates.lean). The property's theorems are read off `lookup_sound`.
-/
import FendModel.Model.XRates
import FendModel.Proofs.XRates

namespace Fend.C20
open Fend.XRates

def Sound {α} (P : α → Prop) (x : X α) : Prop := x = .error .invalid ∨ ∃ v, x = .ok v ∧ P v

theorem Sound.error {α} {P : α → Prop} : Sound P (.error .invalid) := .inl rfl

theorem Sound.ok {α} {P : α → Prop} {v : α} (h : P v) : Sound P (.ok v) := .inr ⟨v, rfl, h⟩

@[elab_as_elim]
theorem Sound.elim {α} {Q : α → Prop} {x : X α} {motive : X α → Prop} (h : Sound Q x)
    (error : motive (.error .invalid)) (ok : ∀ v, Q v → motive (.ok v)) : motive x := by
  obtain rfl | ⟨v, rfl, hv⟩ := h
  · exact error
  · exact ok v hv

theorem Sound.ne_panic {α} {P : α → Prop} {x : X α} (h : Sound P x) : x ≠ .error .panic :=
  h.elim nofun fun _ _ => nofun

theorem Sound.error_eq {α} {P : α → Prop} {x : X α} (h : Sound P x) {e : XErr} : x = .error e → e = .invalid :=
  h.elim (fun he => (Except.error.inj he).symm) fun _ _ => nofun

theorem Sound.of_ok {α} {P : α → Prop} {x : X α} (h : Sound P x) {v : α} : x = .ok v → P v :=
  h.elim nofun fun _ hw hv => Except.ok.inj hv ▸ hw

/-- the tests of the cache reader are guards: what follows one may use that it did not fire -/
theorem Sound.ite {α} {P : α → Prop} {c : Prop} [Decidable c] {a b : X α} (ha : Sound P a) (hb : ¬c → Sound P b) :
    Sound P (if c then a else b) := by
  split
  · exact ha
  · exact hb ‹_›

/-- the pinned tree had no boundary check: a line cut inside the currency code panicked (D11) -/
theorem pinned_split_panics :
    splitAt [85, 83] 3 = .error .panic ∧ splitAt [85, 226, 130, 172] 3 = .error .panic := ⟨rfl, rfl⟩

theorem infix_trans {a b c : Bytes} (h1 : a <:+: b) (h2 : b <:+: c) : a <:+: c := List.IsInfix.trans h1 h2

/-- one EU line: `split_at(3)` is only reached behind the boundary check, and the rate text is a piece of the line -/
theorem euLine_sound (l : Bytes) : Sound (fun o => ∀ p, o = some p → p.2 <:+: l) (euLine l) := by
  unfold euLine
  refine .ite (.ok nofun) fun _ => ?_
  refine .ite .error fun _ => ?_
  refine .ite .error fun hb => ?_
  -- the boundary guard `hb` is the very test `splitAt` makes: no panic
  rw [splitAt, if_pos (by simpa using hb)]
  dsimp only
  split
  · exact .error
  refine .ok fun p hp => ?_
  -- (`rintro _ ⟨rfl⟩`, as in `lookup_sound` below, would evaluate the string constants of this goal on its way)
  obtain rfl := Option.some.inj hp
  -- the rate text is a `take` of `trimStartMatches` of a `drop` (the split) of a `drop` (the prefix) of `trim l`
  exact (List.take_prefix _ _).isInfix.trans <| (trimStartMatches_suffix _ _ _).isInfix.trans <|
    (List.drop_suffix _ _).isInfix.trans <| (List.drop_suffix _ _).isInfix.trans (trim_infix l)

theorem euLines_sound (xml : Bytes) (ls : List Bytes) (hls : ∀ l ∈ ls, l <:+: xml) :
    Sound (fun ps => ∀ p ∈ ps, p.2 <:+: xml) (euLines ls) := by
  induction ls with
  | nil => exact .ok nofun
  | cons l ls ih =>
    obtain ⟨hl, hls⟩ := List.forall_mem_cons.mp hls
    unfold euLines
    refine (euLine_sound l).elim .error fun o ho => ?_
    cases o with
    | none => exact ih hls
    | some q =>
      exact (ih hls).elim .error fun ps hps => .ok <| List.forall_mem_cons.mpr ⟨(ho q rfl).trans hl, hps⟩

theorem parseEU_sound (okRate : Bytes → Bool) (xml : Bytes) :
    Sound (fun ps => ∀ p ∈ ps, p.2 <:+: xml) (parseEU okRate xml) := by
  unfold parseEU
  refine (euLines_sound xml _ (splitLines_infix xml)).elim .error fun ps hps => ?_
  refine .ite .error fun _ => ?_
  refine .ite .error fun _ => ?_
  exact .ok hps

/-- the cache framing: what is handed to the parsers is valid UTF-8 (it begins at the `;` of a file that is) and a
suffix of the file -/
theorem loadCached_sound (contents : Bytes) (now maxAge : Nat) :
    Sound (fun xml => Ser.validUtf8 xml = true ∧ xml <:+ contents) (loadCached contents now maxAge) := by
  unfold loadCached
  refine .ite .error fun hv => ?_
  split
  · exact .error
  rename_i i hf
  obtain ⟨hl, hvi, -⟩ := valid_at_needle contents (by simpa using hv) [59] 1 (by decide) i hf
  rw [splitAt, if_pos (isBoundary_of_valid_drop contents i (by omega) hvi)]
  dsimp only
  split
  · exact .error
  refine .ite .error fun _ => ?_
  refine .ite .error fun _ => ?_
  exact .ok ⟨hvi, List.drop_suffix ..⟩

/-- the scanning loop of the UN parser on a valid piece `s` of the file: every slice it takes starts right after an ASCII
needle it has just found, so none panics and what is left is valid again; the rates it reports are pieces of the file -/
theorem unLoop_sound (okRate : Bytes → Bool) (xml : Bytes) : ∀ (fuel : Nat) (s : Bytes), Ser.validUtf8 s = true →
    s <:+ xml → Sound (fun ps => ∀ p ∈ ps, p.2 <:+: xml) (unLoop okRate fuel s) := by
  intro fuel
  induction fuel with
  | zero => exact fun _ _ _ => .error
  | succ fuel ih =>
    intro s hv hs
    unfold unLoop
    refine .ite (.ok nofun) fun _ => ?_
    split
    · exact .ite (.ok nofun) fun _ => .error
    rename_i i1 hf1
    obtain ⟨hl1, -, hv1⟩ := valid_at_needle s hv _ 13 (by rw [cp_ofList]; decide) i1 hf1
    rw [sliceFrom_valid s _ hl1 hv1]
    dsimp only
    split
    · exact .error
    rename_i i2 hf2
    obtain ⟨hl2, -, hv2⟩ := valid_at_needle _ hv1 _ 14 (by rw [cp_ofList]; decide) i2 hf2
    rw [sliceFrom_valid _ _ hl2 hv2]
    dsimp only
    split
    · exact .error
    rename_i i3 hf3
    obtain ⟨hl3, -, hv3⟩ := valid_at_needle _ hv2 _ 6 (by rw [cp_ofList]; decide) i3 hf3
    rw [sliceFrom_valid _ _ hl3 hv3]
    dsimp only
    split
    · exact .error
    rename_i i4 hf4
    obtain ⟨hl4, -, hv4⟩ := valid_at_needle _ hv3 _ 7 (by rw [cp_ofList]; decide) i4 hf4
    refine .ite .error fun _ => ?_
    rw [sliceFrom_valid _ _ hl4 hv4]
    dsimp only
    have hs3 := ((List.drop_suffix (i3 + 6) _).trans (List.drop_suffix (i2 + 14) _)).trans
      ((List.drop_suffix (i1 + 13) s).trans hs)
    exact (ih _ hv4 ((List.drop_suffix (i4 + 7) _).trans hs3)).elim .error fun ps hps =>
      .ok <| List.forall_mem_cons.mpr ⟨(List.take_prefix ..).isInfix.trans hs3.isInfix, hps⟩

theorem parseUN_sound (okRate : Bytes → Bool) (xml : Bytes) (hv : Ser.validUtf8 xml = true) :
    Sound (fun ps => ∀ p ∈ ps, p.2 <:+: xml) (parseUN okRate xml) := by
  unfold parseUN
  split
  · exact .error
  rename_i i hf
  obtain ⟨hl, hvi, -⟩ := valid_at_needle xml hv _ 22 (by rw [cp_ofList]; decide) i hf
  rw [sliceFrom_valid xml i (by omega) hvi]
  exact unLoop_sound okRate xml _ _ hvi (List.drop_suffix ..)

/-- either source, the whole path (cache framing, parser, lookup), ANY cache contents: no panic, and a rate that
is reported stands verbatim in the file -/
theorem lookup_sound (src : Source) (okRate : Bytes → Bool) (contents : Bytes) (now maxAge : Nat) (cur : Bytes) :
    Sound (fun o => ∀ rate, o = some rate → rate <:+: contents) (lookup src okRate contents now maxAge cur) := by
  unfold lookup
  refine (loadCached_sound contents now maxAge).elim .error fun xml ⟨hv, hsuf⟩ => ?_
  dsimp only
  -- the parser is chosen by a `match src` inside `lookup`; the same `match` written out here would be another
  -- constant, so what is needed of the parsers' result is taken from `he`, by cases on `src`
  split
  · rename_i e he
    have : e = .invalid := by
      cases src
      · exact (parseEU_sound okRate xml).error_eq he
      · exact (parseUN_sound okRate xml hv).error_eq he
    exact this ▸ .error
  rename_i ps he
  have hps : ∀ p ∈ ps, p.2 <:+: xml := by
    cases src
    · exact (parseEU_sound okRate xml).of_ok he
    · exact (parseUN_sound okRate xml hv).of_ok he
  refine .ite (.ok nofun) fun _ => ?_
  split
  · rename_i p hp
    refine .ok ?_
    rintro _ ⟨rfl⟩
    exact (hps p (List.mem_of_find?_eq_some hp)).trans hsuf.isInfix
  · exact .error

theorem eu_lookup_no_panic (okRate : Bytes → Bool) (contents : Bytes) (now maxAge : Nat) (cur : Bytes) :
    lookup .eu okRate contents now maxAge cur ≠ .error .panic :=
  (lookup_sound .eu okRate contents now maxAge cur).ne_panic

/-- crash-point form: for EVERY truncation point `n` of a good cache file, a reported rate stands
verbatim in the good file -/
theorem eu_prefix_safe (okRate : Bytes → Bool) (good : Bytes) (n now maxAge : Nat) (cur rate : Bytes)
    (h : lookup .eu okRate (good.take n) now maxAge cur = .ok (some rate)) : rate <:+: good :=
  ((lookup_sound .eu okRate _ now maxAge cur).of_ok h rate rfl).trans (List.take_prefix n good).isInfix

theorem un_prefix_safe (okRate : Bytes → Bool) (good : Bytes) (n now maxAge : Nat) (cur rate : Bytes)
    (h : lookup .un okRate (good.take n) now maxAge cur = .ok (some rate)) : rate <:+: good :=
  ((lookup_sound .un okRate _ now maxAge cur).of_ok h rate rfl).trans (List.take_prefix n good).isInfix

/-- the whole UN path: cache framing, parser, lookup — no panic for ANY cache contents -/
theorem un_lookup_no_panic (okRate : Bytes → Bool) (contents : Bytes) (now maxAge : Nat) (cur : Bytes) :
    lookup .un okRate contents now maxAge cur ≠ .error .panic :=
  (lookup_sound .un okRate contents now maxAge cur).ne_panic

end Fend.C20
