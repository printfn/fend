/-
C18 — strings, JSON escaping and inline substitution preserve text faithfully.
-/
import FendModel.Proofs.Json
import FendModel.Proofs.Inline
import FendModel.Proofs.StrLit
import Batteries.Lean.Except  -- `DecidableEq (Except ..)`, for the `decide` tests on `parseStringLiteral`

namespace Fend.C18
open Fend Fend.Json Fend.Inline Fend.StrLit

-- `Char.valid` unfolds to this very condition, with `0xdfff < n` for `0xE000 ≤ n`
theorem char_isScalar (c : Char) : isScalar c.toNat := c.valid

/-- the statement of `json_roundtrip` directly on code points -/
theorem json_roundtrip_codepoints (s : List Nat) (hs : ∀ c ∈ s, isScalar c) :
    jsonDecodeString (34 :: (escapeString s ++ [34])) = some s :=
  decode_escapeString s hs _ (by have := escapeString_length s; simp; omega)

/-- The escaper's output between quotes is valid JSON and decodes to the original text,
for EVERY Unicode string (list of scalar values, any length). -/
theorem json_roundtrip (s : List Char) :
    jsonDecodeString (34 :: (escapeString (s.map Char.toNat) ++ [34])) = some (s.map Char.toNat) :=
  json_roundtrip_codepoints _ fun _ hc => by
    obtain ⟨ch, _, rfl⟩ := List.mem_map.mp hc
    exact char_isScalar ch

/-- the escaper emits printable ASCII only -/
theorem json_ascii (s : List Nat) (hs : ∀ c ∈ s, isScalar c) :
    ∀ x ∈ escapeString s, 0x20 ≤ x ∧ x ≤ 0x7e := by
  intro x hx
  obtain ⟨c, hc, hxc⟩ := List.mem_flatMap.mp hx
  exact escapeChar_ascii c (hs c hc) x hxc

/-- Inline substitution: putting `[[src]]` back around every evaluated part gives back the
input, for every input and every evaluator — so text outside `[[…]]` (and inside backticks)
is returned unchanged and in order. -/
theorem inline_reassembles {σ} (eval : σ → List Char → σ × Res) (ctx : σ) (input : List Char) :
    reassemble (inlineSubst eval ctx input) = input := by
  unfold inlineSubst
  rw [finish_reassemble, foldl_consumed]
  simp [consumed, init, reassemble]

/-- each `[[expr]]` is replaced by exactly what evaluating `expr` gives -/
theorem inline_each_expr {σ} (eval : σ → List Char → σ × Res) (ctx : σ) (input : List Char) :
    PartsOk eval (inlineSubst eval ctx input) :=
  -- `finish` puts one more unprocessed part, which `PartsOk` skips, in front of the filed parts and reverses the list
  partsOk_reverse eval _ (foldl_partsOk eval (init ctx) input trivial)

/-- A string literal written with the canonical escaping (only the terminator and the
backslash escaped) denotes exactly its text, for every text and both quote styles, and the
lexer resumes right after the closing quote. -/
theorem strlit_roundtrip (term : Nat) (ht : term = 34 ∨ term = 39) (s rest : List Nat) :
    parseStringLiteral term (escapeCanon term s ++ term :: rest) = .ok (s, rest) :=
  go_canon term ht s rest [] _ (by
    have := escapeCanon_length term s
    simp only [List.length_append, List.length_cons]; omega)

def cp (s : String) : List Nat := s.toList.map Char.toNat

/-- the documented escape sequences, each checked on the model: the literal body (followed by
the closing quote) denotes the given text -/
def escapeTable : List (List Nat × List Nat) :=
  [ (cp "\\\\", [92]), (cp "\\\"", [34]), (cp "\\'", [39]),
    (cp "\\a", [7]), (cp "\\b", [8]), (cp "\\e", [27]), (cp "\\f", [12]),
    (cp "\\n", [10]), (cp "\\r", [13]), (cp "\\t", [9]), (cp "\\v", [11]),
    (cp "\\x41", [65]), (cp "\\x7f", [127]), (cp "\\x00", [0]),
    (cp "\\u{7e}", [126]), (cp "\\u{1F600}", [0x1F600]), (cp "\\u{10ffff}", [0x10ffff]),
    (cp "\\^@", [0]), (cp "\\^H", [8]), (cp "\\^_", [31]), (cp "\\^?", [127]),
    (cp "a\\z  \n\t b", [97, 98]),
    (cp "\\z\\t c", [9, 32, 99]) ]

theorem escape_table :
    ∀ p ∈ escapeTable, parseStringLiteral 34 (p.1 ++ [34]) = .ok (p.2, []) := by
  decide +kernel

/-- surrogates and out-of-range code points are rejected, not mis-decoded -/
theorem unicode_escape_rejects :
    parseStringLiteral 34 (cp "\\u{d800}\"") = .error .invalidUnicode ∧
    parseStringLiteral 34 (cp "\\u{110000}\"") = .error .invalidUnicode ∧
    parseStringLiteral 34 (cp "\\u{}\"") = .error .invalidUnicode ∧
    parseStringLiteral 34 (cp "\\x80\"") = .error .backslashX := by
  decide +kernel

-- non-vacuity / sanity: a concrete string with a control char, a quote, a BMP and an astral char
example : escapeString [9, 34, 0x41, 0x7f, 0x1d54a] =
    "\\t\\\"A\\u007f\\ud835\\udd4a".toList.map Char.toNat := by decide +kernel

example : inlineSubst (fun (n : Nat) s => (n + 1, Res.output s)) 0 "a`[[`[[1+1]]b".toList
    = [.unprocessed "a`[[`".toList, .evaluated "1+1".toList (.output "1+1".toList),
       .unprocessed "b".toList] := by decide +kernel

end Fend.C18
