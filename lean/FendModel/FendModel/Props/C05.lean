/-
C05 — dimensional analysis is sound: incompatible quantities never combine.
-/
import FendModel.Model.Units
import Mathlib.Algebra.Field.Rat

namespace Fend.C05
open Fend.Units

theorem all_beq_eq_false {α : Type} {l : List α} {f g : α → Rat} {u : α} (hu : u ∈ l) (h : f u ≠ g u) :
    (l.all fun x => f x == g x) = false :=
  List.all_eq_false.mpr ⟨u, hu, by simpa using h⟩

/-- converting (and adding / subtracting, which scale through the same check) between quantities
whose reduced dimensions differ in some base unit is always the incompatible-units error -/
theorem convert_incompatible (bases : List Nat) (x : Rat) (a b : UnitV) (u : Nat) (hu : u ∈ bases)
    (hd : expOf u (reduce a.dims).1 ≠ expOf u (reduce b.dims).1) : convert bases x a b = none :=
  if_neg (Bool.eq_false_iff.mp (all_beq_eq_false hu hd))

theorem add_incompatible (bases : List Nat) (x y : Rat) (a b : UnitV) (u : Nat) (hu : u ∈ bases)
    (hd : expOf u (reduce b.dims).1 ≠ expOf u (reduce a.dims).1) : addIn bases x a y b = none :=
  if_neg (Bool.eq_false_iff.mp (all_beq_eq_false hu hd))

theorem expOf_append (b : Nat) (x y : Dims) : expOf b (x ++ y) = expOf b x + expOf b y := by
  induction x with
  | nil => simp [expOf]
  | cons p rest ih => simp only [List.cons_append, expOf, ih, add_assoc]

theorem expOf_map (b : Nat) (f : Rat → Rat) (h0 : f 0 = 0) (hadd : ∀ s t, f (s + t) = f s + f t) (d : Dims) :
    expOf b (d.map fun (x, e) => (x, f e)) = f (expOf b d) := by
  induction d with
  | nil => exact h0.symm
  | cons p rest ih => simp only [List.map_cons, expOf, ih, hadd, apply_ite f, h0]

/-- multiplying adds dimension exponents -/
theorem mul_dims (b : Nat) (x y : Dims) : expOf b (mulDims x y) = expOf b x + expOf b y := expOf_append b x y

/-- dividing subtracts them -/
theorem div_dims (b : Nat) (x y : Dims) : expOf b (divDims x y) = expOf b x - expOf b y := by
  rw [divDims, expOf_append, expOf_map b Neg.neg neg_zero neg_add, sub_eq_add_neg]

/-- raising to a rational power multiplies them -/
theorem pow_dims (b : Nat) (x : Dims) (q : Rat) : expOf b (powDims x q) = expOf b x * q :=
  expOf_map b (· * q) (zero_mul q) (fun s t => add_mul s t q) x

/-- the physical dimension of a unit: one rational exponent per base quantity -/
def physLeaf (d : Dims) : Nat → Rat := fun b => expOf b (rename d)

/-- the dimension physics assigns to an expression, or `none` where physics forbids it: sums, differences and
conversions need equal dimensions (adding an exact zero is the one permitted no-op), exponents and the arguments
of pure-number functions must be dimensionless -/
def phys (bases : List Nat) : UExpr → Option (Nat → Rat)
  | .leaf d => some (physLeaf d)
  | .mul a b => match phys bases a, phys bases b with
    | some f, some g => some (fun x => f x + g x) | _, _ => none
  | .div a b => match phys bases a, phys bases b with
    | some f, some g => some (fun x => f x - g x) | _, _ => none
  | .pow a e q => match phys bases a, phys bases e with
    | some f, some g => if bases.all (fun x => g x == 0) then some (fun x => f x * q) else none
    | _, _ => none
  | .add z a b => match phys bases a, phys bases b with
    | some f, some g => if z then some f else if bases.all (fun x => g x == f x) then some f else none
    | _, _ => none
  | .conv a b => match phys bases a, phys bases b with
    | some f, some g => if bases.all (fun x => f x == g x) then some g else none
    | _, _ => none
  | .fn1 a => match phys bases a with
    | some f => if bases.all (fun x => f x == 0) then some (fun _ => 0) else none
    | none => none
  | .fn2 a b => match phys bases a, phys bases b with
    | some f, some g => if bases.all (fun x => f x == 0) && bases.all (fun x => g x == 0) then some (fun _ => 0) else none
    | _, _ => none

theorem eq_of_isExactly {s : Nat} {d : Dims} (h : isExactly s d = true) : d = [(s, 1)] := by
  unfold isExactly at h
  split at h
  · simp only [Bool.and_eq_true, beq_iff_eq] at h; rw [h.1, h.2]
  · cases h

/-- the celsius / fahrenheit special cases of `reduce_hashmap` change offsets and scales, never the dimension -/
theorem reduce_dims (d : Dims) : (reduce d).1 = rename d := by
  fun_cases reduce d with
  | case1 h => rw [eq_of_isExactly h]; rfl
  | case2 _ h => rw [eq_of_isExactly h]; rfl
  | case3 => rfl

theorem rename_map (f : Rat → Rat) (d : Dims) :
    rename (d.map fun (x, e) => (x, f e)) = (rename d).map fun (x, e) => (x, f e) := by
  simp [rename, List.map_map, Function.comp_def]

theorem physLeaf_mul (x y : Dims) : physLeaf (mulDims x y) = fun b => physLeaf x b + physLeaf y b := by
  funext b; simp only [physLeaf, mulDims, rename, List.map_append, expOf_append]

theorem physLeaf_map (f : Rat → Rat) (h0 : f 0 = 0) (hadd : ∀ s t, f (s + t) = f s + f t) (d : Dims) :
    physLeaf (d.map fun (x, e) => (x, f e)) = fun b => f (physLeaf d b) := by
  funext b; rw [physLeaf, rename_map, expOf_map b f h0 hadd]; rfl

theorem physLeaf_div (x y : Dims) : physLeaf (divDims x y) = fun b => physLeaf x b - physLeaf y b := by
  rw [divDims, ← mulDims, physLeaf_mul, physLeaf_map Neg.neg neg_zero neg_add]
  simp only [sub_eq_add_neg]

theorem physLeaf_pow (x : Dims) (q : Rat) : physLeaf (powDims x q) = fun b => physLeaf x b * q :=
  physLeaf_map (· * q) (zero_mul q) (fun s t => add_mul s t q) x

theorem physLeaf_nil : physLeaf [] = fun _ => 0 := rfl

theorem sameDims_phys (bases : List Nat) (x y : Dims) :
    sameDims bases (reduce x).1 (reduce y).1 = bases.all (fun u => physLeaf x u == physLeaf y u) := by
  rw [reduce_dims, reduce_dims]; rfl

/-- **the dimension of any result is the one physics assigns, and the evaluator reports an incompatibility
exactly where physics forbids the expression** — for every expression tree -/
theorem tree_dims (bases : List Nat) (t : UExpr) : (dimsOf bases t).map physLeaf = phys bases t := by
  induction t with
  | leaf d => rfl
  | fn1 a iha =>
    simp only [dimsOf, phys, ← iha]
    cases dimsOf bases a <;> simp only [sameDims_phys, apply_ite (Option.map physLeaf), Option.map_some, Option.map_none, physLeaf_nil]
  | mul a b iha ihb | div a b iha ihb | pow a b q iha ihb | add z a b iha ihb | conv a b iha ihb | fn2 a b iha ihb =>
    simp only [dimsOf, phys, ← iha, ← ihb]
    cases dimsOf bases a <;> cases dimsOf bases b <;>
      simp only [sameDims_phys, apply_ite (Option.map physLeaf), Option.map_some, Option.map_none, physLeaf_mul, physLeaf_div,
        physLeaf_pow, physLeaf_nil]

/-- in particular a sum of quantities whose physical dimensions differ (right operand not an exact zero) is
never a number, wherever it occurs inside a larger expression it makes the whole evaluation fail -/
theorem sum_of_different_dimensions_fails (bases : List Nat) (a b : UExpr) (f g : Nat → Rat)
    (ha : phys bases a = some f) (hb : phys bases b = some g) (u : Nat) (hu : u ∈ bases) (hne : g u ≠ f u) :
    dimsOf bases (.add false a b) = none := by
  have h := tree_dims bases (.add false a b)
  simp only [phys, ha, hb, Bool.false_eq_true, if_false, all_beq_eq_false hu hne] at h
  exact Option.map_eq_none_iff.mp h

-- non-vacuity: `(m * s) + m` fails, `(m / s) ^ 2 to (m^2 s^-2)` has dimension m^2 s^-2, `ln(m / m)` is allowed
example : dimsOf [3, 4] (.add false (.mul (.leaf [(4, 1)]) (.leaf [(3, 1)])) (.leaf [(4, 1)])) = none := by decide +kernel
example : (dimsOf [3, 4] (.conv (.pow (.div (.leaf [(4, 1)]) (.leaf [(3, 1)])) (.leaf []) 2) (.leaf [(4, 2), (3, -2)]))).isSome = true := by
  decide +kernel
example : (dimsOf [3, 4] (.fn1 (.div (.leaf [(4, 1)]) (.leaf [(4, 1)])))).isSome = true := by decide +kernel

-- non-vacuity: metre vs second are incompatible in the `second` base unit
example : expOf 3 (reduce [(4, (1 : Rat))]).1 ≠ expOf 3 (reduce [(3, (1 : Rat))]).1 := by decide +kernel

end Fend.C05
