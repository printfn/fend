/-
C12 — saved variables reload to the same values.
`serValue`/`deValue` etc. mirror every serialize/deserialize pair byte for byte (Model/Serialize.lean).
-/
import FendModel.Proofs.SerializeValue

namespace Fend.C12
open Fend.Ser

/-- every representable value — numbers with units/format/base, strings, dates, distributions,
objects, built-in functions, closures with (nested) captured scopes — is read back exactly,
and the reader stops exactly at the end of the value -/
theorem value_roundtrip (v : Value) (rest : Bytes) (h : RepV v) :
    deValue (sizeV v) (serValue v ++ rest) = .ok (v, rest) :=
  (rt_fuel _).1 v ⟨h, Nat.le_refl _⟩ rest

/-- more fuel never hurts: the statement for any sufficient fuel -/
theorem value_roundtrip_fuel (v : Value) (fuel : Nat) (rest : Bytes) (h : RepV v) (hf : sizeV v ≤ fuel) :
    deValue fuel (serValue v ++ rest) = .ok (v, rest) := (rt_fuel fuel).1 v ⟨h, hf⟩ rest

/-- closures: a captured scope chain is read back exactly -/
theorem scope_roundtrip (o : OptScope) (rest : Bytes) (h : RepO o) :
    deOptScope (sizeO o) (serOptScope o ++ rest) = .ok (o, rest) :=
  (rt_fuel _).2.2.2.2 o ⟨h, Nat.le_refl _⟩ rest

/-- Saved variables reload to the same values: for every representable variable table (every
kind of value, closures with captured scopes included), reading back what was written yields
exactly the same table; trailing bytes are ignored. -/
theorem context_roundtrip (vars : List (Str × Value)) (h : VarsRep vars) (rest : Bytes) :
    deVars (serVars vars ++ rest) = .ok vars := by
  -- `deVars` hands the readers fuel `input length + 1`; a value writes at least `sizeV` bytes (`sizeV_le_serVars`)
  have hfuel : ∀ p ∈ vars, sizeV p.2 ≤ (serVars vars ++ rest).length + 1 := fun p hp => by
    have := sizeV_le_serVars hp
    rw [List.length_append]
    omega
  exact congrArg dropRest (rtVars _ vars ⟨h, hfuel⟩ rest)

/-- every built-in function is saved under a name that is read back as the same function -/
theorem builtin_names_inverse (i : Nat) (h : i < builtinNames.length) (rest : Bytes) :
    deBuiltin (serBuiltin i ++ rest) = .ok (i, rest) := rtBuiltin i h rest

/-- D8 on the pinned tree: `try_from_str` knew 24 of the 29 names; `floor` (index 25) was one
of the five that could not be read back -/
theorem pinned_builtin_missing :
    let pinnedAccepted := builtinNames.filter
      (fun n => n ∉ [[109, 101, 97, 110], [97, 114, 103], [102, 108, 111, 111, 114], [99, 101, 105, 108], [114, 111, 117, 110, 100]])
    pinnedAccepted.length = 24 ∧ pinnedAccepted.idxOf? (builtinNames.getD 25 []) = none := by
  decide +kernel

-- non-vacuity: a curried closure applied to one argument, i.e. a closure with a captured scope
-- whose captured expression is itself a literal closure — representable, hence covered
example : RepV (.fn [120] (.bop 0 (.ident [120]) (.ident [121]))
    (.some (.mk [121] (.literal (.bool true)) .none .none))) := by
  simp only [RepV, RepE, RepO, RepS, StrRep]
  decide

end Fend.C12
