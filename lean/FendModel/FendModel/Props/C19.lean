/-
C19 — the CLI is a faithful front-end to the core.
-/
import FendModel.Model.Cli

namespace Fend.C19
open Fend.Cli

def printLast (out : Out) : CoreRes → Out
  | .ok t u n => if u then out else { out with stdout := out.stdout ++ t ++ (if n then "\n" else "") }
  | .err msg => { out with stderr := out.stderr ++ "Error: " ++ msg ++ "\n", status := 1 }

theorem evalExprs_cons {σ} (coreEval : σ → String → σ × CoreRes) (ctx : σ) (x : String) (rest : List String) (out : Out) :
    evalExprs coreEval ctx (x :: rest) out =
      match (coreEval ctx x).2 with
      | .err msg => printLast out (.err msg)
      | r => evalExprs coreEval (coreEval ctx x).1 rest (if rest.isEmpty then printLast out r else out) := by
  rw [evalExprs]
  generalize coreEval ctx x = ce
  obtain ⟨c', r⟩ := ce
  cases r with
  | err msg => rfl
  | ok t u n => cases u <;> cases rest <;> rfl

theorem evalExprs_skip {σ} (coreEval : σ → String → σ × CoreRes) (pre rest : List String) (hne : rest ≠ [])
    (hok : ∀ c x, x ∈ pre → ∃ t u n, (coreEval c x).2 = .ok t u n) (ctx : σ) (out : Out) :
    evalExprs coreEval ctx (pre ++ rest) out =
      evalExprs coreEval (pre.foldl (fun c x => (coreEval c x).1) ctx) rest out := by
  induction pre generalizing ctx with
  | nil => rfl
  | cons x pre ih =>
    obtain ⟨t, u, n, h⟩ := hok ctx x List.mem_cons_self
    have hemp : (pre ++ rest).isEmpty = false := by simp [hne]
    rw [List.cons_append, evalExprs_cons, h, hemp]
    exact ih (fun c y hy => hok c y (List.mem_cons_of_mem x hy)) _

/-- when every earlier expression succeeds, the output is exactly what the core returns for the
LAST expression (evaluated in the context the earlier ones left): its text, a newline iff the
core asks for one, nothing for `()`/empty results; earlier results are never printed -/
theorem last_printed {σ} (coreEval : σ → String → σ × CoreRes) (ctx : σ) (pre : List String) (e : String) (out : Out)
    (hok : ∀ c x, x ∈ pre → ∃ t u n, (coreEval c x).2 = .ok t u n) :
    ∃ c, evalExprs coreEval ctx (pre ++ [e]) out = printLast out (coreEval c e).2 := by
  refine ⟨pre.foldl (fun c x => (coreEval c x).1) ctx, ?_⟩
  rw [evalExprs_skip coreEval pre [e] (List.cons_ne_nil e []) hok ctx out, evalExprs_cons]
  cases (coreEval _ e).2 <;> rfl

/-- status is 1 iff some evaluated expression fails; then stderr gets exactly `Error: <msg>` for
the first failure and no later expression is evaluated (nothing more is appended) -/
theorem first_error_stops {σ} (coreEval : σ → String → σ × CoreRes) (ctx : σ) (pre : List String)
    (e : String) (post : List String) (out : Out) (msg : String)
    (hpre : ∀ c x, x ∈ pre → ∃ t u n, (coreEval c x).2 = .ok t u n)
    (herr : ∀ c, (coreEval c e).2 = .err msg) :
    evalExprs coreEval ctx (pre ++ e :: post) out =
      { out with stderr := out.stderr ++ "Error: " ++ msg ++ "\n", status := 1 } := by
  rw [evalExprs_skip coreEval pre (e :: post) (List.cons_ne_nil e post) hpre ctx out, evalExprs_cons, herr]
  rfl

/-- variables carry over: the context in which each expression is evaluated is the one left by
the previous expression -/
theorem vars_carry {σ} (coreEval : σ → String → σ × CoreRes) (ctx : σ) (e : String) (rest : List String)
    (t : String) (u n : Bool) (c' : σ) (h : coreEval ctx e = (c', .ok t u n)) :
    states coreEval ctx (e :: rest) = ctx :: states coreEval c' rest := by
  simp [states, h]

/-- `help` wins over everything, then `--version`, then `--default-config` (before `--`) -/
theorem help_wins (args : List String) (rf : String → Option String) (st : ArgState)
    (h : argLoop rf args {} = .ok st) (hh : st.help = true) : fromArgs args rf = .ok .help := by
  simp [fromArgs, h, hh]

/-- a word that `from_args` appends to the pending positional expression: no option, no readable file, not blank -/
def plainWord (rf : String → Option String) (w : String) : Prop :=
  w ∉ ["help", "--help", "-h", "--version", "-v", "-V", "--default-config", "--print-default-config",
        "-f", "--file", "-e", "--eval", "--"] ∧ rf w = none ∧ isBlank w = false

theorem argLoop_plainWord (rf : String → Option String) (w : String) (ws : List String) (st : ArgState)
    (h : plainWord rf w) :
    argLoop rf (w :: ws) st = argLoop rf ws { st with expr := if st.expr.isEmpty then w else st.expr ++ " " ++ w } := by
  obtain ⟨h1, h2, h3⟩ := h
  simp only [List.mem_cons, List.not_mem_nil, or_false, not_or] at h1
  rw [argLoop.eq_def]  -- `unfold` would open the right-hand side too
  simp [h1, h2, h3]

/-- plain positional words are joined by single spaces into ONE expression -/
theorem argLoop_plain (rf : String → Option String) (ws : List String) (st : ArgState)
    (hw : ∀ w ∈ ws, plainWord rf w) :
    argLoop rf ws st = .ok { st with expr := ws.foldl (fun acc w => if acc.isEmpty then w else acc ++ " " ++ w) st.expr } := by
  induction ws generalizing st with
  | nil => rfl
  | cons w ws ih =>
    rw [argLoop_plainWord rf w ws st (hw w List.mem_cons_self), ih _ fun x hx => hw x (List.mem_cons_of_mem w hx)]
    rfl

end Fend.C19
