/-
C11 — every built-in and custom unit name resolves, coherently with its family.
Table theorems are complete kernel evaluations (`decide +kernel`) over the REGENERATED table of what
the tree under test resolves each name to (rows are reached through `Trie.lookup`, see
Proofs/TableIndex.lean: by index the largest sweep costs more than fifteen times as much); algorithm theorems are about the lookup model and hold for
every table and every custom-unit configuration.
-/
import FendModel.Model.UnitLookup
import FendModel.Gen.UnitsResolved
import FendModel.Proofs.TableIndex

namespace Fend.C11
open Fend.Gen Fend.UnitLookup

def row (i : Nat) : Option Res := resolved.getD i none

/-- `r^k` on reduced fractions; exponents of the family bases are integers, so `e * k` stays reduced -/
def powRes (k : Nat) (r : Res) : Res :=
  ⟨(r.scale.1 ^ k, r.scale.2 ^ k), (r.pi.1 * k, r.pi.2), r.dims.map fun (b, e) => (b, (e.1 * k, e.2))⟩

theorem row_eq (i : Nat) : row i = (Trie.lookup resolved i).getD none := by
  rw [Trie.lookup_eq]; rfl

/-- every singular and plural name of the table evaluates without error -/
theorem all_resolve : status.all (· ≠ 2) = true := by decide +kernel

/-- singular and plural denote the same quantity -/
theorem plural_eq_singular : singularPlural.all (fun (s, p) => row s == row p) = true := by
  simp only [row_eq]; decide +kernel

/-- a name defined as exactly another name (short / long spellings, aliases) denotes the same quantity -/
theorem short_long_agree : sameAs.all (fun (a, b) => row a == row b) = true := by
  simp only [row_eq]; decide +kernel

/-- the square / cubic shorthand families agree with their long forms: sqX = X2 = X^2, cbX = X3 = X^3 -/
theorem families_agree :
    families.all (fun (x, y, k) => (row y).isSome && row y == (row x).map (powRes k)) = true := by
  simp only [row_eq]; decide +kernel

/-- (C04) the factors fixed by the defining standards -/
theorem standards_hold : standards.all (fun (i, r) => row i == r) = true := by
  simp only [row_eq]; decide +kernel

/-- custom units from the host configuration take precedence over everything built in -/
theorem custom_first (table : List Entry) (sh : List (String × String)) (cur : List String) (cfg : Cfg)
    (ident : String) (cs whole : Bool) (e : Entry)
    (h : cfg.custom.find? (fun (s, p, _) =>
        let p := if p.isEmpty then s else p
        (ident == s || ident == p) || (!cs && (eqIgnoreAsciiCase s ident || eqIgnoreAsciiCase p ident))) = some e) :
    queryInternal table sh cur cfg ident false cs whole = some (e.1, if e.2.1.isEmpty then e.1 else e.2.1, e.2.2) := by
  unfold queryInternal
  simp only [Bool.not_false, if_true]
  rw [h]

/-- a prefixed reading is only ever produced when the prefix's and the unit's rules permit it:
names that must not take a prefix do not -/
theorem prefix_only_when_allowed (table : List Entry) (sh : List (String × String)) (cur : List String) (cfg : Cfg)
    (cs : Bool) (pre rest : List Char) (a b : Entry)
    (h : splitLoop table sh cur cfg cs pre rest = .prefixed a b) :
    (ruleOf a.2.2 = .longPrefix ∧ ruleOf b.2.2 = .longAllowed) ∨ (ruleOf a.2.2 = .shortPrefix ∧ ruleOf b.2.2 = .shortAllowed) := by
  fun_induction splitLoop table sh cur cfg cs pre rest
  case case5 hc => cases h; exact hc
  all_goals simp_all

/-- lookup is deterministic when a name is defined twice: the first definition in table order wins -/
theorem first_definition_wins (table : List Entry) (sh : List (String × String)) (cur : List String)
    (ident : String) (e : Entry) (hcur : cur.contains ident = false)
    (h : (table.map (fun (s, p, d) => (s, (if p.isEmpty then s else p), d))).find?
        (fun (s, p, _) => s == ident || p == ident) = some e) :
    queryBuiltin table sh cur ident false true = some e := by
  unfold queryBuiltin
  simp only [Bool.false_eq_true, if_false, if_true, hcur]
  rw [h]

end Fend.C11
