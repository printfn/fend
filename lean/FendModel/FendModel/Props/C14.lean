/-
C14 — loading variable bytes is memory-safe for arbitrary input.
The deserializer model (Model/Serialize.lean) is a total function into `ok | eof | bad`: it has no
panic outcome because, after the repairs, no read can reach one. The theorems below are the facts that
make that true and that later evaluation relies on; Tie A pins the absence of pre-allocations.
-/
import FendModel.Proofs.SerializeLeaf
import FendModel.Gen.AllocSites

namespace Fend.C14
open Fend.Ser

/-- Tie A: no deserializer pre-allocates from a length it has just read (regenerated table). -/
theorem no_untrusted_prealloc : Fend.Gen.allocSites = [] := by decide

/-- a successful element-by-element read of `n` elements, each consuming at least one byte, implies
`n ≤ input length`: a huge length field can only end in the ordinary short-read error -/
theorem deListN_bounded {α} (d : D α) (hd : ∀ bs a r, d bs = .ok (a, r) → r.length < bs.length)
    (n : Nat) (bs : Bytes) (l : List α) (r : Bytes) (h : deListN d n bs = .ok (l, r)) :
    l.length = n ∧ r.length + n ≤ bs.length := by
  induction n generalizing bs l with
  | zero => cases h; exact ⟨rfl, Nat.le_refl _⟩
  | succ n ih =>
    unfold deListN at h
    split at h
    · cases h
    · next h1 =>
      split at h <;> cases h
      next h2 =>
      -- the first element took at least one byte (`h1`), the other `n` at least `n` of what was left (`h2`)
      have := hd _ _ _ h1
      have := ih _ _ h2
      exact ⟨by rw [List.length_cons, this.1], by omega⟩

theorem deU8_consumes (bs : Bytes) (a : Nat) (r : Bytes) (h : deU8 bs = .ok (a, r)) : r.length < bs.length := by
  match bs, h with
  | _ :: _, h => cases h; exact Nat.lt_succ_self _

theorem deU64_consumes (bs : Bytes) (a : Nat) (r : Bytes) (h : deU64 bs = .ok (a, r)) : r.length + 8 = bs.length := by
  match bs, h with
  | _ :: _ :: _ :: _ :: _ :: _ :: _ :: _ :: _, h => cases h; rfl

/-- a string of claimed length `n` is only accepted if `n` bytes are really there -/
theorem string_length_honest (bs : Bytes) (s : Str) (r : Bytes) (h : deStr bs = .ok (s, r)) :
    s.length + r.length + 8 ≤ bs.length ∧ validUtf8 s = true := by
  simp only [deStr, andThen_eq_ok, if_eq_iff, reduceCtorEq, and_false, or_false, Except.ok.injEq,
    Prod.mk.injEq] at h
  obtain ⟨_, _, h1, _, _, h2, hv, rfl, rfl⟩ := h
  have := deListN_bounded deU8 deU8_consumes _ _ _ _ h2
  have := deU64_consumes _ _ _ h1
  exact ⟨by omega, hv⟩

/-- a loaded base is always in 2..=36 (so printing can neither divide by zero, loop, nor index a
missing digit) -/
theorem base_validated (bs : Bytes) (b : Base) (r : Bytes) (h : deBase bs = .ok (b, r)) : BaseRep b := by
  simp only [deBase, andThen_eq_ok, if_eq_iff, reduceCtorEq, and_false, false_or, or_false, Except.ok.injEq,
    Prod.mk.injEq] at h
  obtain ⟨_, _, -, ⟨-, rfl, -⟩ | ⟨-, ⟨-, rfl, -⟩ | ⟨-, ⟨-, rfl, -⟩ | ⟨-, ⟨-, _, _, -, hx, rfl, -⟩ |
    ⟨-, -, _, _, -, hx, rfl, -⟩⟩⟩⟩⟩ := h
  iterate 3 trivial
  all_goals simp only [BaseRep]; omega

/-- a loaded big integer always has at least one limb -/
theorem uint_nonempty (bs : Bytes) (b : BigUint) (r : Bytes) (h : deUint bs = .ok (b, r)) : b.limbs ≠ [] := by
  simp only [deUint, andThen_eq_ok, if_eq_iff, reduceCtorEq, and_false, false_or, or_false, Except.ok.injEq,
    Prod.mk.injEq] at h
  obtain ⟨_, _, -, ⟨-, _, _, -, rfl, -⟩ | ⟨-, -, n, _, -, hn, v, _, hv, rfl, -⟩⟩ := h
  · exact List.cons_ne_nil _ _
  · have := deListN_bounded deU64 (fun _ _ _ h => by have := deU64_consumes _ _ _ h; omega) _ _ _ _ hv
    exact fun e => hn (this.1.symm.trans (congrArg List.length e))

/-- a loaded rational has a non-zero denominator (whatever its limb representation): later arithmetic never divides by,
or takes the logarithm of, a zero denominator -/
theorem rat_den_nonzero (bs : Bytes) (q : BigRat) (r : Bytes) (h : deRat bs = .ok (q, r)) : isZeroU q.den = false := by
  simp only [deRat, andThen_eq_ok, if_eq_iff, reduceCtorEq, and_false, false_or, Except.ok.injEq,
    Prod.mk.injEq] at h
  obtain ⟨_, _, -, -, _, _, -, _, _, -, hz, rfl, -⟩ := h
  exact Bool.eq_false_iff.2 hz

/-- a loaded date has a non-zero year, a month in 1..12 and a day in 1..31 -/
theorem date_validated (bs : Bytes) (d : SDate) (r : Bytes) (h : deDate bs = .ok (d, r)) :
    d.year ≠ 0 ∧ 1 ≤ d.month ∧ d.month ≤ 12 ∧ 1 ≤ d.day ∧ d.day ≤ 31 := by
  simp only [deDate, deMonth, andThen_eq_ok, if_eq_iff, reduceCtorEq, and_false, false_or, or_false,
    Except.ok.injEq, Prod.mk.injEq] at h
  obtain ⟨_, _, -, hy, _, _, ⟨_, _, -, hm, rfl, -⟩, _, _, -, hd, rfl, -⟩ := h
  refine ⟨hy, hm.1, hm.2, ?_, ?_⟩ <;> dsimp only <;> omega

-- non-vacuity: the validators do accept something
example : deBase [5, 10, 99] = .ok (.plain 10, [99]) := by rfl
example : deBase [5, 0, 99] = .error .bad ∧ deBase [4, 37] = .error .bad ∧ deUint [2, 0,0,0,0,0,0,0,0] = .error .bad := ⟨rfl, rfl, rfl⟩

end Fend.C14
