/-
C06 — no input can crash fend.

A Lean function cannot panic, so what can be machine-checked is (a) that the explicit panic constructs of the
tree under test are all among the reviewed ones (Tie A: the table is regenerated from /repo on every run; a new
`unwrap`, `unreachable!`, `assert!`, `split_at` or `ilog` breaks `sites_reviewed`), and (b) discharge lemmas
for the sites whose unreachability is arithmetic.  Implicit panics (indexing, overflow), stack depth and
termination are runtime truth: they are hunted by the correspondence run (token soup, mutations, prefixes,
nesting ramps under a catch_unwind harness with overflow checks on), not proved.
-/
import FendModel.Gen.PanicSites
import FendModel.Proofs.BigRatField
import FendModel.Proofs.ComplexTree
import FendModel.Proofs.BigUintShift
import FendModel.Proofs.Refines

namespace Fend.C06

/-- the reviewed panic constructs with the reason each cannot be reached from input text -/
def reviewed : List ((String × String × String × Nat) × String) := [
  (("core/src/date.rs", "day_of_week", "unreachable", 1), "rem_euclid 7 is in 0..6 (weekday_index_in_range)"),
  (("core/src/date.rs", "today", "unwrap", 2), "conversion of the host clock value; only with a host time callback"),
  (("core/src/date/day.rs", "new", "assert", 1), "callers pass 1..=31: parser-validated, or computed from a month length"),
  (("core/src/date/parser.rs", "parse_char", "split_at", 1), "split at len_utf8 of the first char"),
  (("core/src/date/year.rs", "new", "assert", 1), "parser rejects year 0; next/prev step over it (year_step_nonzero)"),
  (("core/src/json.rs", "escape_string", "unwrap", 4), "write! into a String cannot fail"),
  (("core/src/lexer.rs", "next_token", "split_at", 4), "indices taken from char_indices / len_utf8 of scanned chars"),
  (("core/src/lexer.rs", "next_token", "unwrap", 1), "peeked char known to exist"),
  (("core/src/lexer.rs", "parse_basic_number", "unwrap", 1), "`following.is_some() &&` guards the unwrap"),
  (("core/src/lexer.rs", "parse_char", "split_at", 1), "split at len_utf8 of the first char"),
  (("core/src/lexer.rs", "parse_date", "split_at", 4), "split_at(1) after matching an ASCII digit or '-'"),
  (("core/src/lexer.rs", "parse_ident", "split_at", 2), "byte index accumulated from len_utf8 of scanned chars"),
  (("core/src/lexer.rs", "parse_quote_unit", "split_at", 4), "split after an ASCII quote / len_utf8"),
  (("core/src/lexer.rs", "parse_string_literal", "split_at", 2), "index from char_indices"),
  (("core/src/lexer.rs", "parse_string_literal", "unwrap", 2), "char::from_u32 of a value checked below 0x80 / digit parse of scanned hex digits"),
  (("core/src/lexer.rs", "parse_symbol", "split_at", 1), "split at len_utf8 of a char matched by starts_with"),
  (("core/src/lexer.rs", "skip_whitespace_and_comments", "split_at", 2), "split at len_utf8 / at a found newline"),
  (("core/src/lib.rs", "dummy_currency_handler", "panic", 1), "test helper, only installed by tests"),
  (("core/src/lib.rs", "evaluate_with_interrupt_internal", "unwrap", 1), "write! into a String cannot fail"),
  (("core/src/num/bigrat.rs", "add_internal", "assert", 1), "both operands positive: callers dispatch on sign first"),
  (("core/src/num/bigrat.rs", "cmp", "unwrap", 1), "subtraction under the Never interrupt cannot be interrupted"),
  (("core/src/num/bigrat.rs", "format_trailing_digits", "panic", 1), "Brent's search on a non-terminating fraction never sees the remainder 0 (C02 findCycle_spec)"),
  (("core/src/num/bigrat.rs", "format_trailing_digits", "split_at", 2), "ASCII digit string split at digit counts"),
  (("core/src/num/biguint.rs", "bits", "ilog", 2), "Small(0) excluded by callers (is_zero checked) / top limb non-zero"),
  (("core/src/num/biguint.rs", "bits", "unwrap", 1), "u32 to u64"),
  (("core/src/num/biguint.rs", "format", "expect", 1), "base is 2..=36, never 0"),
  (("core/src/num/biguint.rs", "format", "unwrap", 1), "digit value below the base has a character"),
  (("core/src/num/biguint.rs", "ilog2", "assert", 1), "callers exclude zero"),
  (("core/src/num/biguint.rs", "log2", "ilog", 1), "called on positive numbers only"),
  (("core/src/num/biguint.rs", "lshift_n", "unreachable", 1), "value was just made Large"),
  (("core/src/num/biguint.rs", "mul_internal", "unreachable", 1), "value was just made Large"),
  (("core/src/num/biguint.rs", "sub", "assert", 1), "callers compare first (C01 sub_exact hypothesis)"),
  (("core/src/num/biguint.rs", "sub", "unreachable", 1), "value was just made Large"),
  (("core/src/num/complex.rs", "pow", "unreachable", 1), "a non-negative integer modulo 4 is 0..3; negative exponents are inverted first (mod4_lt)"),
  (("core/src/num/continued_fraction.rs", "format", "panic", 1), "module not reachable from evaluation (unused experimental type)"),
  (("core/src/num/continued_fraction.rs", "next", "unwrap", 10), "module not reachable from evaluation"),
  (("core/src/num/continued_fraction.rs", "shift_down", "unwrap", 4), "module not reachable from evaluation"),
  (("core/src/num/continued_fraction.rs", "shift_right", "unwrap", 4), "module not reachable from evaluation"),
  (("core/src/num/dist.rs", "format", "unwrap", 1), "comparison under the Never interrupt cannot be interrupted"),
  (("core/src/num/dist.rs", "new_die", "assert", 2), "lexer rejects zero counts / faces before calling"),
  (("core/src/num/dist.rs", "one_point", "unwrap", 1), "length checked to be 1"),
  (("core/src/units.rs", "construct_prefixed_unit", "assert", 1), "prefix / unit rule checked by the caller (C11 prefix_only_when_allowed)"),
  (("core/src/units.rs", "get_completions_for_prefix", "split_at", 1), "index from rfind of an ASCII char / len_utf8"),
  (("core/src/units.rs", "query_unit", "split_at", 2), "split_at_checked-style loop over char boundaries"),
  (("core/src/units.rs", "query_unit_case_sensitive", "split_at", 1), "index from char_indices"),
  (("core/src/units.rs", "query_unit_case_sensitive", "unwrap", 1), "first char of a non-empty remainder (loop guard `split_idx < ident.len()`); the second unwrap this entry used to cover — first char of the identifier — WAS reachable with an empty identifier from a saved image (defect D28, repaired: the review reason had been wrong)"),
  (("core/src/units/builtin.rs", "query_unit", "unwrap", 1), "exactly one candidate was just counted")
]

/-- **Tie A**: every explicit panic construct in today's fend-core (outside tests) is a reviewed one, with the
reviewed multiplicity -/
theorem sites_reviewed : Fend.Gen.panicSites.all (fun s => reviewed.any (fun r => r.1 == s)) = true := by
  decide +kernel

/-- `day_of_week`: the index matched against 0..6 is in range for EVERY year (also BC), month offset and day -/
theorem weekday_index_in_range (d1 m day : Int) : 0 ≤ (d1 + m + (day - 1)) % 7 ∧ (d1 + m + (day - 1)) % 7 < 7 :=
  ⟨Int.emod_nonneg _ (by decide), Int.emod_lt_of_pos _ (by decide)⟩

/-- `Complex::pow`: a natural number modulo 4 is one of the four matched arms -/
theorem mod4_lt (n : Nat) : n % 4 = 0 ∨ n % 4 = 1 ∨ n % 4 = 2 ∨ n % 4 = 3 := by omega

def yearNext (y : Int) : Int := if y = -1 then 1 else y + 1
def yearPrev (y : Int) : Int := if y = 1 then -1 else y - 1
/-- `Year::next` / `prev` never construct year 0 (the `assert!(year != 0)` of `Year::new`) -/
theorem year_step_nonzero (y : Int) (h : y ≠ 0) : yearNext y ≠ 0 ∧ yearPrev y ≠ 0 := by
  unfold yearNext yearPrev
  constructor <;> split <;> omega

/-- the stepping functions are only called below the ends of the i32 range (the `checked_*` guards): no overflow -/
theorem year_step_in_range (y : Int) (h0 : y ≠ 0) (lo : -2147483648 < y) (hi : y < 2147483647) :
    -2147483648 ≤ yearPrev y ∧ yearNext y ≤ 2147483647 := by
  unfold yearNext yearPrev
  constructor <;> split <;> omega

/-- superscript exponents: digits are folded most significant first, no fixed-width power of ten is formed -/
def foldDigits (ds : List Nat) : Nat := ds.foldl (fun a d => a * 10 + d) 0
example : foldDigits [9, 9, 9, 9, 9, 9, 9, 9, 9, 9, 9, 9, 9, 9, 9, 9, 9, 9, 9, 9, 9, 9] = 9999999999999999999999 := by decide

/-! In the models of `biguint.rs` / `bigrat.rs` / `complex.rs` every Rust panic site (overflow, index out of range,
`unreachable!`, `assert!`, `unwrap` on an error) is the result `.error .panic`.  The refinement theorems of C01 / C10 give, as
corollaries, that this result is never produced on the inputs the evaluator can build. -/

/-- evaluating ANY expression tree over + - * / unary minus on well-formed rational literals never reaches a panic site
(`BigUint::sub` underflow, `lshift` on an empty vector, `Ord::cmp`'s unwrap, ... are all unreachable from here) -/
theorem field_eval_never_panics (e : BigRat.QExpr) (hl : BigRat.LeavesOK e) : BigRat.evalQ e ≠ .error .panic :=
  (BigRat.evalQ_refines e hl).ne_panic

/-- the same for trees over complex rationals (with conjugate) -/
theorem complex_eval_never_panics (e : Cx.CExpr) (hl : Cx.LeavesOKC e) : Cx.evalC e ≠ .error .panic :=
  (Cx.evalC_refines e hl).ne_panic

/-- long division, gcd and both shifts return a value (or `divideByZero`) on every well-formed limb vector: their internal
`sub` never underflows, `lshift` never sees an empty vector, the gcd loop never runs out of fuel -/
theorem bignum_core_never_panics (a b : BigUint) (ha : a.WF) (hb : b.WF) (hne : a.limbs ≠ []) :
    BigUint.divmod a b ≠ .error .panic ∧ BigUint.gcd a b ≠ .error .panic ∧
    (b.fitsU64 = true → BigUint.lshiftN a b ≠ .error .panic ∧ BigUint.rshiftN a b ≠ .error .panic) := by
  refine ⟨?_, ?_, fun hf => ⟨?_, ?_⟩⟩
  · by_cases h0 : BigUint.val b = 0
    · rw [BigUint.divmod_zero a b h0]; nofun
    · obtain ⟨q, r, h, _⟩ := BigUint.divmod_val a b ha hb h0; exact ok_ne_panic h
  · obtain ⟨g, h, _⟩ := BigUint.gcd_val a b ha hb; exact ok_ne_panic h
  · obtain ⟨r, h, _⟩ := BigUint.lshiftN_val a b ha hne hf; exact ok_ne_panic h
  · obtain ⟨r, h, _⟩ := BigUint.rshiftN_val a b ha hf; exact ok_ne_panic h

end Fend.C06
