/-
C13 — live preview is side-effect free.
-/
import FendModel.Model.Preview
import FendModel.Gen.CallbackSites

namespace Fend.C13
open Fend.Preview

theorem evaluatePreview_eq {V} (eval : Evaluator V) (input : String) (ctx : Ctx V) :
    evaluatePreview eval input ctx =
      let out := eval input { ctx with randomU32 := none, getExchangeRate := none }
      { result := out.result.bind (filter input), ctx := ctx, trace := out.trace } := by
  unfold evaluatePreview
  simp only
  split <;> simp only [*, Option.bind_none, Option.bind_some]

/-- whatever the evaluator does — succeed, fail, get interrupted, assign variables, change
settings — the context after a preview is exactly the context before it -/
theorem preview_restores {V} (eval : Evaluator V) (input : String) (ctx : Ctx V) :
    (evaluatePreview eval input ctx).ctx = ctx := by
  rw [evaluatePreview_eq]

/-- during a preview no random number is drawn and no exchange rate is requested -/
theorem preview_silent {V} (eval : Evaluator V) (h : CallbacksOnlyViaContext eval)
    (input : String) (ctx : Ctx V) : (evaluatePreview eval input ctx).trace = [] := by
  rw [evaluatePreview_eq]
  refine List.eq_nil_iff_forall_not_mem.mpr fun cb hcb => ?_
  rcases h input _ cb hcb with ⟨_, h1⟩ | ⟨_, h1⟩ <;> simp at h1

/-- a preview never returns empty, unit-typed, over-long, echo-only or multi-line text -/
theorem preview_filter {V} (eval : Evaluator V) (input : String) (ctx : Ctx V) (r : String × Bool)
    (h : (evaluatePreview eval input ctx).result = some r) :
    r.1.isEmpty = false ∧ r.2 = false ∧ r.1.utf8ByteSize ≤ 50 ∧
    (r.1.trimAscii.toString == input.trimAscii.toString) = false ∧
    (∀ c ∈ r.1.toList, 32 ≤ c.toNat) := by
  rw [evaluatePreview_eq] at h
  obtain ⟨r0, -, h⟩ := Option.bind_eq_some_iff.mp h
  obtain ⟨hc, h⟩ := Option.ite_none_left_eq_some.mp h
  cases h
  simp only [Bool.or_eq_true, not_or, Bool.not_eq_true, decide_eq_false_iff_not, Nat.not_lt] at hc
  obtain ⟨⟨⟨⟨h1, h2⟩, h3⟩, h4⟩, h5⟩ := hc
  exact ⟨h1, h2, h3, h4, fun c hcm => by simpa using List.any_eq_false.mp h5 c hcm⟩

/-- Tie A: the only reads of the two callback fields in the evaluator are the two modelled sites
(dice sampling and the currency branch of unit lookup); everything else is the public setters, the
`Debug` impl and the preview function itself. A new read site changes the regenerated table. -/
theorem callback_sites_as_modelled :
    Fend.Gen.callbackReadSites =
      [("core/src/num/dist.rs", "sample", "random_u32"),
       ("core/src/units.rs", "expr_unit", "get_exchange_rate")] := rfl

-- non-vacuity: an evaluator that assigns a variable, flips settings and draws a random number when
-- it can, satisfies the hypothesis of `preview_silent`
example : CallbacksOnlyViaContext (fun (_ : String) (c : Ctx Nat) =>
    { result := some ("5", false), ctx := { c with variables := c.variables + 1, fcMode := !c.fcMode },
      trace := if c.randomU32.isSome then [.rng] else [] }) := by
  intro input c cb hcb
  by_cases h : c.randomU32.isSome
  · simp [h] at hcb; exact Or.inl ⟨hcb, h⟩
  · simp [h] at hcb

end Fend.C13
