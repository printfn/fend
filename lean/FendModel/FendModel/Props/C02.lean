/-
C02 — numeric literals and exact renderings round-trip in every base and style.
Two levels.  Digit groups: `litValue` is the arithmetic the lexer performs on the digit groups it scans, `natDigits` /
`digitsFrom` / `findCycle` are what the renderer emits, and the groups emitted for `num/den` denote `num/den`, in every base.
Text: the model of the lexer's scanner (`parseNumber`), run on the characters `fmtRat` prints for an integer, a terminating and
a recurring expansion, returns those digit groups, for the bases and prefixes of `Readable` and either separator convention.
An integer literal with an exponent is scanned likewise (the renderer prints none).  Digit separators inside literals, the
`n sf` layout and mixed fractions (which involve the parser) are model code tied to the implementation by the correspondence
run only; the `n dp` text is in C03.
-/
import FendModel.Proofs.Format
import FendModel.Proofs.NumLitScan
import FendModel.Proofs.FormatLayout

namespace Fend.C02
open Fend.Fmt Fend.NumLit

/-- an integer rendered in any base reads back as itself; its digits are digits of the base, without a leading zero -/
theorem integer_roundtrip (b n : Nat) (hb : 2 ≤ b) :
    litValue ⟨b, natDigits b n, none, none, none⟩ = (n : Rat) ∧ (∀ d ∈ natDigits b n, d < b) ∧
    (0 < n → ∃ d t, natDigits b n = d :: t ∧ d ≠ 0) := by
  refine ⟨?_, natDigits_lt b n hb, natDigits_head b n hb⟩
  simp [litValue, valDigits_natDigits b n hb]

/-- the digits after the point are the canonical positional expansion: the (k+1)-th one is `⌊r·b^(k+1)/den⌋ mod b` -/
theorem expansion_canonical (b den r k : Nat) (hb : 2 ≤ b) (hr : r < den) :
    (digitsFrom b den r (k + 1)).getLast? = some ((r * b ^ (k + 1) / den) % b) := by
  simp [digitsFrom, digit_canonical b den r k (Nat.zero_lt_of_lt hb) hr]

/-- improper and mixed fractions: `n/d` and `⌊n/d⌋ (n mod d)/d` denote the same value -/
theorem mixed_fraction_roundtrip (num den : Nat) (hden : 0 < den) :
    ((num / den : Nat) : Rat) + ((num % den : Nat) : Rat) / den = (num : Rat) / den := by
  have hd0 : (den : Rat) ≠ 0 := Nat.cast_ne_zero.mpr hden.ne'
  rw [eq_div_iff hd0, add_mul, div_mul_cancel₀ _ hd0]
  exact_mod_cast Nat.div_add_mod' num den

/-- a terminating expansion (`I.A`, remainder exhausted after `k` digits) reads back as exactly `num/den` -/
theorem terminating_roundtrip (b num den k : Nat) (hb : 2 ≤ b) (hden : 0 < den)
    (hterm : remAt b den (num % den) k = 0) :
    litValue ⟨b, natDigits b (num / den), some (digitsFrom b den (num % den) k), none, none⟩ = (num : Rat) / den := by
  have h := digitsFrom_value b den (num % den) k (Nat.zero_lt_of_lt hb) hden
  rw [hterm, Nat.cast_zero, zero_div, add_zero] at h
  simp only [litValue, valDigits_natDigits b _ hb, digitsFrom_length]
  rw [h, mixed_fraction_roundtrip num den hden]

/-- a recurring expansion `I.A(B)` — `A` the `mu` digits before the cycle, `B` the `lam` digits of the cycle —
reads back as exactly `num/den` -/
theorem recurring_roundtrip (b num den mu lam : Nat) (hb : 2 ≤ b) (hden : 0 < den) (hlam : 0 < lam)
    (hcyc : remAt b den (num % den) mu = remAt b den (num % den) (mu + lam)) :
    litValue ⟨b, natDigits b (num / den), some (digitsFrom b den (num % den) mu),
      some (digitsFrom b den (remAt b den (num % den) mu) lam), none⟩ = (num : Rat) / den := by
  -- `A` leaves `R/den`, scaled by `b^mu`, unaccounted for (`R` the remainder the cycle starts from), and one period over
  -- `b^lam - 1` is worth exactly `R/den`
  have h1 := digitsFrom_value b den (num % den) mu (Nat.zero_lt_of_lt hb) hden
  have h2 := cycle_value b den (remAt b den (num % den) mu) lam hb hden hlam (by rw [remAt_add, ← hcyc])
  simp only [litValue, valDigits_natDigits b _ hb, digitsFrom_length, Option.getD_some]
  rw [div_mul_eq_div_div, h2, div_div, add_assoc, h1, mixed_fraction_roundtrip num den hden]

/-- e-notation scales by the power of the base the notation defines -/
theorem exponent_value (b : Nat) (i e : List Nat) :
    litValue ⟨b, i, none, none, some (false, e)⟩ = (valDigits b i : Nat) * (b : Rat) ^ valDigits b e ∧
    litValue ⟨b, i, none, none, some (true, e)⟩ = (valDigits b i : Nat) / (b : Rat) ^ valDigits b e := by
  simp [litValue]

/-- positional notation: a digit string denotes Σ dᵢ·bⁱ (stated as the recurrence) -/
theorem positional (b d : Nat) (t : List Nat) : valDigits b (d :: t) = d * b ^ t.length + valDigits b t :=
  valDigits_cons b d t

/-- the renderings fend can read back by itself: binary / octal / hexadecimal with their `0b` / `0o` / `0x` prefix, plain
decimal, and EVERY base 2..36 with its `n#` prefix -/
def Readable (b : Nat) (p : Pfx) : Prop := ((b = 2 ∨ b = 8 ∨ b = 16) ∧ p = .zero) ∨ (b = 10 ∧ p = .plain) ∨ ((2 ≤ b ∧ b ≤ 36) ∧ p = .custom)

theorem Readable.le {b : Nat} {p : Pfx} (hr : Readable b p) : 2 ≤ b ∧ b ≤ 36 := by
  rcases hr with ⟨hb, _⟩ | ⟨rfl, _⟩ | ⟨h, _⟩
  · rcases hb with rfl | rfl | rfl <;> decide
  · decide
  · exact h

/-- the scanner on what the renderer prints; `rest` is nothing, or the separator and a fraction part -/
theorem parseNumber_rendered {b : Nat} {p : Pfx} (hr : Readable b p) {sep th : Char} (hs : SepOK sep th) (n : Nat) (rest : List Char)
    (hrest : rest = [] ∨ ∃ r, rest = sep :: r) {frac recur : Option (List Nat)} (hF : fracPart b sep th rest = .ok (frac, recur, [])) :
    parseNumber sep th (prefixChars p b ++ ((natDigits b n).map digitChar ++ rest)) =
      .ok (.num ⟨b, natDigits b n, frac, recur, none⟩ [], p) := by
  obtain ⟨hb2, hb36⟩ := hr.le
  have hE : Ends 36 th rest := by
    rcases hrest with rfl | ⟨r, rfl⟩
    · exact .inl rfl
    · exact hs.ends (Nat.le_refl _) (by simp) r
  have h := parseBasic_scan hb36 hs _ (natDigits_ne_nil b n hb2) (natDigits_lt b n hb2) rest (hE.mono hb36) hF (diceAfter_nil ..) (expPart_nil ..)
  rcases hr with ⟨hb, rfl⟩ | ⟨rfl, rfl⟩ | ⟨⟨h2, h36⟩, rfl⟩
  · exact parseNumber_prefixed (parseBasePrefix_zero hb th _) h
  · have hne : sep ≠ '#' := by rcases hs with ⟨rfl, _⟩ | ⟨rfl, _⟩ <;> decide
    obtain ⟨e, he⟩ := parseBasePrefix_plain hs.th n rest hE (by rcases hrest with rfl | ⟨r, rfl⟩ <;> simp [hne])
    exact parseNumber_plain he h
  · exact parseNumber_prefixed (parseBasePrefix_custom h2 h36 hs _) h

/-- the text printed for an integer is read back, character by character, as that integer -/
theorem integer_text_roundtrip (b : Nat) (p : Pfx) (hr : Readable b p) (sep th : Char) (hs : SepOK sep th) (n : Nat) :
    ∃ parts, parseNumber sep th (fmtRat ⟨b, p, .exactFloat, sep⟩ false n 1).1 = .ok (.num parts [], p) ∧ litValue parts = (n : Rat) := by
  have htxt : (fmtRat ⟨b, p, .exactFloat, sep⟩ false n 1).1 = prefixChars p b ++ ((natDigits b n).map digitChar ++ []) := by
    simp [fmtRat, signed, fmtNat_text]
  rw [htxt]
  exact ⟨_, parseNumber_rendered hr hs n [] (.inl rfl) rfl, (integer_roundtrip b n hr.le.1).1⟩

/-- the text printed for a non-terminating fraction, `I.A(B)`, is read back, character by character, as exactly `num/den` -/
theorem recurring_text_roundtrip (b : Nat) (p : Pfx) (hr : Readable b p) (sep th : Char) (hs : SepOK sep th)
    (num den mu lam : Nat) (hden : 0 < den) (hden1 : den ≠ 1) (hnt : terminates b den = false)
    (h : findCycle b den (num % den) = some (mu, lam)) :
    ∃ parts, parseNumber sep th (fmtRat ⟨b, p, .exactFloat, sep⟩ false num den).1 = .ok (.num parts [], p) ∧
      litValue parts = (num : Rat) / den := by
  obtain ⟨hb2, hb36⟩ := hr.le
  -- the cycle the renderer finds satisfies the premises of `recurring_roundtrip`
  obtain ⟨hlam, hcyc⟩ := findCycle_spec b den (num % den) mu lam h
  have hr0 : num % den < den := Nat.mod_lt _ hden
  have htxt : (fmtRat ⟨b, p, .exactFloat, sep⟩ false num den).1 = prefixChars p b ++ ((natDigits b (num / den)).map digitChar ++
      sep :: ((digitsFrom b den (num % den) mu).map digitChar ++
        '(' :: ((digitsFrom b den (remAt b den (num % den) mu) lam).map digitChar ++ [')']))) := by
    simp [fmtRat, hden1, hnt, h, signed, fmtNat_text]
  rw [htxt]
  exact ⟨_, parseNumber_rendered hr hs _ _ (.inr ⟨_, rfl⟩)
      (fracPart_recurring hb36 hs _ _ (digitsFrom_lt b den _ (Nat.zero_lt_of_lt hb2) hr0 mu) (digitsFrom_lt b den _ (Nat.zero_lt_of_lt hb2) (remAt_lt b den _ mu hr0) lam)
        (List.ne_nil_of_length_pos (by rw [digitsFrom_length]; exact hlam))),
    recurring_roundtrip b num den mu lam hb2 hden hlam hcyc⟩

/-- the text printed for a terminating fraction, `I.A`: integer part, separator, the long-division digits up to the vanishing
remainder without trailing zeros — read back, character by character, as exactly `num/den`.  `k` is the number of steps after
which the remainder vanishes: that it exists and is within the renderer's own budget `den + 2` are hypotheses here (`hk`, `hbefore`,
`hfuel`), not proved from `terminates` -/
theorem terminating_text_roundtrip (b : Nat) (p : Pfx) (hr : Readable b p) (sep th : Char) (hs : SepOK sep th)
    (num den k : Nat) (hden : 0 < den) (hden1 : den ≠ 1) (hterm : terminates b den = true) (hr0 : num % den ≠ 0)
    (hk : remAt b den (num % den) k = 0) (hbefore : ∀ j, j < k → remAt b den (num % den) j ≠ 0) (hfuel : k ≤ den + 1) :
    ∃ parts, parseNumber sep th (fmtRat ⟨b, p, .exactFloat, sep⟩ false num den).1 = .ok (.num parts [], p) ∧
      litValue parts = (num : Rat) / den := by
  obtain ⟨hb2, hb36⟩ := hr.le
  have hloop := nonrec_text b den (num % den) .all (fun m => by simp) sep (prefixChars p b ++ (natDigits b (num / den)).map digitChar)
    false (num / den == 0) k (fun j hj => ⟨hbefore j hj, by simp⟩) (Or.inl hk) (den + 2) (Nat.succ_le_succ hfuel)
  have hsne := stripZ_ne_nil (valDigits_digitsFrom_ne_zero b den (num % den) k (Nat.zero_lt_of_lt hb2) hr0 hk)
  have htxt : (fmtRat ⟨b, p, .exactFloat, sep⟩ false num den).1 = prefixChars p b ++ ((natDigits b (num / den)).map digitChar ++
      sep :: (stripZ (digitsFrom b den (num % den) k)).map digitChar) := by
    simp [fmtRat, hden1, hterm, hloop, signed, renderDigits, hsne, fmtNat_text]
  rw [htxt]
  exact ⟨_, parseNumber_rendered hr hs _ _ (.inr ⟨_, rfl⟩) (fracPart_terminating hb36 hs.th _
      (fun d hd => digitsFrom_lt b den _ (Nat.zero_lt_of_lt hb2) (Nat.mod_lt _ hden) k d (mem_of_mem_stripZ hd)) hsne),
    (litValue_stripZ b hb2 _ _).trans (terminating_roundtrip b num den k hb2 hden hk)⟩

/-- a decimal (or lower-base) integer literal with an exponent — `IeE`, `Ie+E`, `Ie-E` — is scanned, character by character,
into its digit groups, and denotes `I * b^E` resp. `I / b^E` -/
theorem exponent_literal_text (b : Nat) (hb2 : 2 ≤ b) (hb : b ≤ 10) (sep th : Char) (hs : SepOK sep th) (n : Nat) (sign : Option Bool)
    (d : Nat) (ds : List Nat) (hds : ∀ x ∈ d :: ds, x < b) :
    ∃ parts, parseBasic b sep th ((natDigits b n).map digitChar ++
        'e' :: ((match sign with | none => [] | some true => ['-'] | some false => ['+']) ++ (d :: ds).map digitChar)) = .ok (.num parts []) ∧
      litValue parts = if sign == some true then (n : Rat) / (b : Rat) ^ valDigits b (d :: ds) else (n : Rat) * (b : Rat) ^ valDigits b (d :: ds) := by
  refine ⟨_, parseBasic_exponent hb hs _ (natDigits_ne_nil b n hb2) (natDigits_lt b n hb2) sign d ds hds, ?_⟩
  obtain ⟨hpos, hneg⟩ := exponent_value b (natDigits b n) (d :: ds)
  rw [valDigits_natDigits b n hb2] at hpos hneg
  cases sign == some true
  · exact hpos
  · exact hneg

-- the scanner and the renderer on concrete literals / values (kernel-evaluated; these are tests, not the theorems).
-- A literal is `String.ofList` of its characters: rewriting with that is cheaper than letting the kernel decode the string.
example : (fmtRat ⟨10, .plain, .exactFloat, '.'⟩ false 1 6).1 = "0.1(6)".toList := by rw [String.toList_ofList]; decide +kernel
example : (fmtRat ⟨12, .custom, .exactFloat, ','⟩ false 1 7).1 = "12#0,(186a35)".toList := by rw [String.toList_ofList]; decide +kernel
example : (fmtRat ⟨16, .plain, .mixed, '.'⟩ true 22 7).1 = "-3 1/7".toList := by rw [String.toList_ofList]; decide +kernel
example : findCycle 10 6 1 = some (1, 1) := by decide +kernel

end Fend.C02
