/-
C01 — exact arithmetic on rationals and complex rationals is exact.
`val : BigUint → Nat` is the abstraction map: every theorem holds for EVERY limb vector
(canonical or not, `small` or `large`, any number of leading zero limbs).
-/
import FendModel.Proofs.BigUintCmpSub
import FendModel.Proofs.BigUintPow
import FendModel.Proofs.BigRat
import FendModel.Proofs.BigRatField
import FendModel.Proofs.BigRatPow
import FendModel.Proofs.Complex
import FendModel.Proofs.ComplexTree
import FendModel.Model.Pinned

namespace Fend.C01
open Fend Fend.BigUint

/-- `BigUint::add` is addition on values (no well-formedness hypothesis needed). -/
theorem add_exact (a b : BigUint) : val (a.add b) = val a + val b := add_val a b

/-- `add_assign_internal`, the multiply-accumulate at the heart of `add` and `mul`. -/
theorem mulAcc_exact (s o : BigUint) (d shift : Nat) :
    val (addAssignInternal s o d shift) = val s + val o * d * B ^ shift :=
  addAssignInternal_val s o d shift

/-- `BigUint::mul` is multiplication on values. -/
theorem mul_exact (a b : BigUint) : val (a.mul b) = val a * val b := mul_val a b

/-- `Ord for BigUint` is the order on values. -/
theorem cmp_exact (a b : BigUint) (ha : a.WF) (hb : b.WF) :
    a.cmp b = compare (val a) (val b) := cmp_val a b ha hb

/-- `BigUint::sub` never reaches its `unreachable!`/`assert_eq!`/overflow when `b ≤ a`,
and is subtraction on values. -/
theorem sub_exact (a b : BigUint) (ha : a.WF) (hb : b.WF) (h : val b ≤ val a) :
    ∃ r, a.sub b = .ok r ∧ val r = val a - val b ∧ r.WF := sub_val a b ha hb h

/-- `BigUint::pow` (square and multiply over `mul`): whenever it returns a value it is the power, for every base and
exponent, in any limb representation -/
theorem pow_exact (a b r : BigUint) (h : a.pow b = .ok r) : val r = val a ^ val b := pow_ok a b r h

/-- it refuses exactly `0^0` and non-zero exponents whose value does not fit in 64 bits (D1 was this clause being false:
the limb COUNT was tested instead of the value) -/
theorem pow_errors (a b : BigUint) :
    (a.pow b = .error .zeroPowZero ↔ val a = 0 ∧ val b = 0) ∧
    (a.pow b = .error .exponentTooLarge ↔ val b ≠ 0 ∧ b.fitsU64 = false) :=
  ⟨pow_zero_zero a b, pow_too_large a b⟩

/-- rational layer: `BigRat::mul` is multiplication of the denoted rationals, for every representation (unreduced, any limbs) -/
theorem rat_mul_exact (a b : BigRat) : BigRat.valQ (BigRat.mul a b) = BigRat.valQ a * BigRat.valQ b := BigRat.mul_valQ a b

/-- `BigRat::div` refuses exactly a zero divisor and is otherwise division of the denoted rationals -/
theorem rat_div_exact (a b : BigRat) (hw : b.num.WF) :
    (BigRat.numIsZero b = true → BigRat.div a b = .error .divideByZero) ∧
    (BigRat.numIsZero b = false → ∃ r, BigRat.div a b = .ok r ∧ (val b.den ≠ 0 → BigRat.valQ r = BigRat.valQ a / BigRat.valQ b)) :=
  ⟨fun h => by rw [BigRat.div_eq, h]; rfl, fun h => ⟨_, by rw [BigRat.div_eq, h]; rfl,
    fun _ => by rw [BigRat.mul_valQ, BigRat.valQ_swap b, div_eq_mul_inv]⟩⟩

theorem rat_neg_exact (a : BigRat) : BigRat.valQ (BigRat.negate a) = - BigRat.valQ a := BigRat.negate_valQ a

/-- binary long division: Euclidean quotient and remainder for every dividend and every non-zero divisor, never a panic -/
theorem divmod_exact (a b : BigUint) (ha : a.WF) (hb : b.WF) (hb0 : val b ≠ 0) :
    ∃ q r, divmod a b = .ok (q, r) ∧ val q = val a / val b ∧ val r = val a % val b ∧ q.WF ∧ r.WF :=
  divmod_val a b ha hb hb0

theorem divmod_by_zero (a b : BigUint) (hb : b.WF) (hb0 : val b = 0) : divmod a b = .error .divideByZero :=
  divmod_zero a b hb0

/-- the Euclidean loop computes the greatest common divisor (its fuel always suffices) -/
theorem gcd_exact (a b : BigUint) (ha : a.WF) (hb : b.WF) :
    ∃ g, gcd a b = .ok g ∧ val g = Nat.gcd (val a) (val b) ∧ g.WF := gcd_val a b ha hb

/-- limbs stay below 2^64 through `add` and `mul` (so results can be fed to `sub`, `cmp`, `divmod`, `gcd`) -/
theorem add_mul_wf (a b : BigUint) (ha : a.WF) (hb : b.WF) : (a.add b).WF ∧ (a.mul b).WF :=
  ⟨add_WF a b ha hb, mul_WF a b ha hb⟩

/-- `BigRat::add` (equal and different denominators, every sign combination, unreduced operands) is addition -/
theorem rat_add_exact (a b : BigRat) (wa : BigRat.WFQ a) (wb : BigRat.WFQ b) (da : val a.den ≠ 0) (db : val b.den ≠ 0) :
    ∃ r, BigRat.add a b = .ok r ∧ BigRat.valQ r = BigRat.valQ a + BigRat.valQ b ∧ BigRat.WFQ r ∧ val r.den ≠ 0 :=
  BigRat.Rep.add (.of_wfq wa da) (.of_wfq wb db)

theorem rat_sub_exact (a b : BigRat) (wa : BigRat.WFQ a) (wb : BigRat.WFQ b) (da : val a.den ≠ 0) (db : val b.den ≠ 0) :
    ∃ r, BigRat.sub a b = .ok r ∧ BigRat.valQ r = BigRat.valQ a - BigRat.valQ b ∧ BigRat.WFQ r ∧ val r.den ≠ 0 :=
  BigRat.Rep.sub (.of_wfq wa da) (.of_wfq wb db)

/-- THE rational-field statement of C01: for every expression tree over +, -, *, /, unary minus whose literals are
well-formed fractions, evaluation with the modelled operations yields a value denoting the tree's true rational
value (whatever unreduced or oddly represented intermediate values arise), and the only error is `divideByZero`,
raised exactly when some divisor's value is zero -/
theorem field_tree_exact (e : BigRat.QExpr) (hl : BigRat.LeavesOK e) :
    (∀ q, BigRat.denote e = some q → ∃ r, BigRat.evalQ e = .ok r ∧ BigRat.valQ r = q ∧ BigRat.WFQ r ∧ val r.den ≠ 0) ∧
    (BigRat.denote e = none → BigRat.evalQ e = .error .divideByZero) :=
  (BigRat.evalQ_refines e hl).spec

/-- `simplify` (division by the gcd) keeps value, sign and well-formedness -/
theorem rat_simplify_exact (x : BigRat) (wx : BigRat.WFQ x) (dx : val x.den ≠ 0) :
    ∃ r, BigRat.simplify x = .ok r ∧ BigRat.valQ r = BigRat.valQ x ∧ BigRat.WFQ r ∧ val r.den ≠ 0 ∧ r.neg = x.neg ∧
      val r.num = val x.num / Nat.gcd (val x.num) (val x.den) ∧ val r.den = val x.den / Nat.gcd (val x.num) (val x.den) :=
  let ⟨r, hr, h, hrest⟩ := BigRat.Rep.simplify (.of_wfq wx dx)
  ⟨r, hr, h.val_eq, h.wfq, h.den_ne, hrest⟩

/-- integer powers of rationals, exponent `+n` written as ANY fraction denoting `n` (`6/3`, `n/1`, ...): the exact power,
flagged exact; errors exactly 0^0 and an exponent beyond the machine word -/
theorem rat_pow_nonneg_int (fuel : Nat) (x e : BigRat) (wx : BigRat.WFQ x) (dx : val x.den ≠ 0) (we : BigRat.WFQ e)
    (he : BigRat.IntExp e) (hneg : e.neg = false) :
    (val x.num = 0 ∧ BigRat.expN e = 0 → BigRat.pow (fuel + 1) x e = .error .zeroPowZero) ∧
    (¬ (val x.num = 0 ∧ BigRat.expN e = 0) → B ≤ BigRat.expN e → BigRat.pow (fuel + 1) x e = .error .exponentTooLarge) ∧
    (¬ (val x.num = 0 ∧ BigRat.expN e = 0) → BigRat.expN e < B →
      ∃ r, BigRat.pow (fuel + 1) x e = .ok (r, true) ∧ BigRat.valQ r = BigRat.valQ x ^ BigRat.expN e ∧ BigRat.WFQ r ∧
        val r.den ≠ 0 ∧ (val r.num = 0 ↔ val x.num = 0)) := by
  have h := BigRat.pow_nonneg_int fuel (.of_wfq wx dx) we he hneg
  simp only [BigRat.valQ_eq_zero_iff x dx] at h
  refine ⟨fun h0 => by rwa [if_pos h0] at h, fun h0 hB => by rwa [if_neg h0, if_pos hB] at h, fun h0 hlt => ?_⟩
  rw [if_neg h0, if_neg hlt.not_ge] at h
  obtain ⟨r, hr, hrep⟩ := h
  -- `x ^ n = 0` only for `x = 0`, and then `n ≠ 0` here
  refine ⟨r, hr, hrep.val_eq, hrep.wfq, hrep.den_ne, hrep.num_eq_zero_iff.trans ?_⟩
  rw [pow_eq_zero_iff', BigRat.valQ_eq_zero_iff x dx]
  exact ⟨And.left, fun hx => ⟨hx, fun hn => h0 ⟨hx, hn⟩⟩⟩

/-- negative integer exponents: the reciprocal of the power; 0^(-n) is division by zero -/
theorem rat_pow_neg_int (fuel : Nat) (x e : BigRat) (wx : BigRat.WFQ x) (dx : val x.den ≠ 0) (we : BigRat.WFQ e)
    (he : BigRat.IntExp e) (hneg : e.neg = true) :
    (val x.num = 0 ∧ BigRat.expN e = 0 → BigRat.pow (fuel + 2) x e = .error .zeroPowZero) ∧
    (¬ (val x.num = 0 ∧ BigRat.expN e = 0) → B ≤ BigRat.expN e → BigRat.pow (fuel + 2) x e = .error .exponentTooLarge) ∧
    (val x.num = 0 → BigRat.expN e ≠ 0 → BigRat.expN e < B → BigRat.pow (fuel + 2) x e = .error .divideByZero) ∧
    (val x.num ≠ 0 → BigRat.expN e < B →
      ∃ r, BigRat.pow (fuel + 2) x e = .ok (r, true) ∧ BigRat.valQ r = (BigRat.valQ x ^ BigRat.expN e)⁻¹) := by
  have h := BigRat.pow_neg_int fuel (.of_wfq wx dx) we he hneg
  simp only [BigRat.valQ_eq_zero_iff x dx] at h
  refine ⟨fun h0 => by rwa [if_pos h0] at h, fun h0 hB => by rwa [if_neg h0, if_pos hB] at h,
    fun hx hn hlt => by rwa [if_neg fun h0 => hn h0.2, if_neg hlt.not_ge, if_pos hx] at h, fun hx hlt => ?_⟩
  rw [if_neg fun h0 => hx h0.1, if_neg hlt.not_ge, if_neg hx] at h
  exact let ⟨r, hr, hrep⟩ := h; ⟨r, hr, hrep.val_eq⟩

-- non-vacuity: (-2/3)^(6/3) meets the hypotheses (unreduced integer exponent, negative base); `powTop` uses fuel 4 = 2 + 2
example : BigRat.WFQ ⟨true, .small 2, .small 3⟩ ∧ BigRat.WFQ ⟨false, .small 6, .small 3⟩ ∧ BigRat.IntExp ⟨false, .small 6, .small 3⟩ := by
  simp [BigRat.WFQ, BigRat.IntExp, WF, val, B]

/-- comparison of rationals (`Ord for BigRat`, the sign of the difference) is the order of the denoted values -/
theorem rat_cmp_exact (a b : BigRat) (wa : BigRat.WFQ a) (wb : BigRat.WFQ b) (da : val a.den ≠ 0) (db : val b.den ≠ 0) :
    BigRat.cmp a b = some (compare (BigRat.valQ a) (BigRat.valQ b)) := BigRat.Rep.cmp (.of_wfq wa da) (.of_wfq wb db)

/-- complex addition is componentwise addition of the denoted rationals -/
theorem complex_add_exact (a b : Cx) (ha : Cx.OKC a) (hb : Cx.OKC b) :
    ∃ r, Cx.add a b = .ok r ∧ BigRat.valQ r.re = BigRat.valQ a.re + BigRat.valQ b.re ∧
      BigRat.valQ r.im = BigRat.valQ a.im + BigRat.valQ b.im ∧ Cx.OKC r := Cx.add_val a b ha hb

/-- complex multiplication: `(a + bi)(c + di) = (ac - bd) + (ad + bc)i`, including every zero short-cut -/
theorem complex_mul_exact (a b : Cx) (ha : Cx.OKC a) (hb : Cx.OKC b) :
    ∃ r, Cx.mul a b = .ok r ∧
      BigRat.valQ r.re = BigRat.valQ a.re * BigRat.valQ b.re - BigRat.valQ a.im * BigRat.valQ b.im ∧
      BigRat.valQ r.im = BigRat.valQ a.re * BigRat.valQ b.im + BigRat.valQ a.im * BigRat.valQ b.re ∧ Cx.OKC r :=
  Cx.mul_val a b ha hb

/-- complex division (general path and the both-real fast path): `divideByZero` exactly for the divisor 0 + 0i, otherwise
the quotient q with q * b = a in Q(i) -/
theorem complex_div_exact (a b : Cx) (ha : Cx.OKC a) (hb : Cx.OKC b) :
    (BigRat.valQ b.re = 0 ∧ BigRat.valQ b.im = 0 → Cx.div a b = .error .divideByZero) ∧
    (¬ (BigRat.valQ b.re = 0 ∧ BigRat.valQ b.im = 0) → ∃ q, Cx.div a b = .ok q ∧ Cx.OKC q ∧
      BigRat.valQ q.re * BigRat.valQ b.re - BigRat.valQ q.im * BigRat.valQ b.im = BigRat.valQ a.re ∧
      BigRat.valQ q.re * BigRat.valQ b.im + BigRat.valQ q.im * BigRat.valQ b.re = BigRat.valQ a.im) := by
  have h := ha.rep.div hb.rep
  refine ⟨fun hz => by rwa [if_pos hz] at h, fun hz => ?_⟩
  rw [if_neg hz] at h
  obtain ⟨q, hq, hr⟩ := h
  refine ⟨q, hq, hr.okc, ?_⟩
  rw [hr.re.val_eq, hr.im.val_eq]
  exact Cx.quot_mul _ _ _ _ hz

theorem complex_neg_conj (c : Cx) :
    (BigRat.valQ (Cx.neg c).re = - BigRat.valQ c.re ∧ BigRat.valQ (Cx.neg c).im = - BigRat.valQ c.im) ∧
    (BigRat.valQ (Cx.conj c).re = BigRat.valQ c.re ∧ BigRat.valQ (Cx.conj c).im = - BigRat.valQ c.im) :=
  ⟨⟨BigRat.negate_valQ c.re, BigRat.negate_valQ c.im⟩, rfl, BigRat.negate_valQ c.im⟩

/-- THE complex statement of C01: for every expression tree over + - * / unary minus and conjugate whose literals a + bi have
well-formed rational parts, evaluation with the modelled `Exact<Complex>` operations yields the tree's value in Q(i)
(real and imaginary part), and the only error is `divideByZero`, raised exactly when some divisor is 0 + 0i -/
theorem complex_tree_exact (e : Cx.CExpr) (hl : Cx.LeavesOKC e) :
    (∀ z, Cx.denoteC e = some z → ∃ r, Cx.evalC e = .ok r ∧ (BigRat.valQ r.re, BigRat.valQ r.im) = z ∧ Cx.OKC r) ∧
    (Cx.denoteC e = none → Cx.evalC e = .error .divideByZero) := (Cx.evalC_refines e hl).spec

-- non-vacuity: (1/2 + 3i) and (0/5 + 0i) are well-formed operands (the second is the zero divisor)
example : Cx.OKC ⟨⟨false, .small 1, .small 2⟩, ⟨false, .small 3, .small 1⟩⟩ ∧ Cx.OKC ⟨⟨false, .small 0, .small 5⟩, ⟨true, .large [0, 0], .small 1⟩⟩ := by
  simp [Cx.OKC, Cx.OKQ, BigRat.WFQ, WF, val, B]

/-- Defect D20 (repaired by a `fix:` commit): on the pinned tree `add` was NOT addition.
Witness: `1 + (2^128 - 1)` gave `2^64`. -/
theorem pinned_add_wrong :
    val (Pinned.add (.small 1) (.large [18446744073709551615, 18446744073709551615]))
      ≠ val (.small 1) + val (.large [18446744073709551615, 18446744073709551615]) := by
  decide +kernel

-- non-vacuity: the hypotheses of `sub_exact`/`cmp_exact` are met by a non-trivial, non-canonical input
example : (BigUint.large [5, 0]).WF ∧ (BigUint.small 3).WF ∧
    val (.small 3) ≤ val (.large [5, 0]) := by
  simp [WF, val, valL, B]

-- non-vacuity of `field_tree_exact`: (1/2 + 2/6) / (3/4 - 6/8) has well-formed leaves and a zero divisor
example : BigRat.LeavesOK (.div (.add (.lit ⟨false, .small 1, .small 2⟩) (.lit ⟨false, .small 2, .small 6⟩))
    (.sub (.lit ⟨false, .small 3, .small 4⟩) (.lit ⟨false, .small 6, .small 8⟩))) := by
  simp [BigRat.LeavesOK, BigRat.WFQ, WF, val, B]

end Fend.C01
