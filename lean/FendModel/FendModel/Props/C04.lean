/-
C04 — unit conversions are exact, invertible and mutually consistent.
Algorithm theorems hold for ALL units with non-zero scales; the concrete factors fixed by standards are
table theorems over the regenerated resolved table (`Fend.C11.standards_hold`, re-exported here).
-/
import FendModel.Model.Units
import FendModel.Props.C11
import Mathlib.Algebra.Field.Rat

namespace Fend.C04
open Fend.Units

/-- units without an additive offset (everything except a plain celsius / fahrenheit temperature) -/
def NoOffset (u : UnitV) : Prop := (reduce u.dims).2.2 = 0

def ratio (a b : UnitV) : Rat := (a.scale * (reduce a.dims).2.1) / (b.scale * (reduce b.dims).2.1)

/-- the `let (d, adj, off) := reduce …` of `convert` are projections by eta, so the `if` of the definition is met without
unfolding -/
theorem convert_eq_some {bases : List Nat} {x : Rat} {a b : UnitV} {r : Rat} :
    convert bases x a b = some r ↔
      sameDims bases (reduce a.dims).1 (reduce b.dims).1 = true ∧
      (x * (a.scale * (reduce a.dims).2.1) + ((reduce a.dims).2.2 - (reduce b.dims).2.2)) /
        (b.scale * (reduce b.dims).2.1) = r :=
  Option.ite_none_right_eq_some.trans (and_congr_right' Option.some_inj)

/-- converting multiplies by a single fixed ratio -/
theorem convert_is_ratio (bases : List Nat) (x : Rat) (a b : UnitV) (ha : NoOffset a) (hb : NoOffset b)
    (r : Rat) (h : convert bases x a b = some r) : r = x * ratio a b := by
  obtain ⟨-, rfl⟩ := convert_eq_some.mp h
  rw [ha, hb, sub_self, add_zero, ratio, mul_div_assoc]

/-- scaling the quantity scales the result -/
theorem convert_linear (bases : List Nat) (k x : Rat) (a b : UnitV) (ha : NoOffset a) (hb : NoOffset b)
    (r : Rat) (h : convert bases x a b = some r) : convert bases (k * x) a b = some (k * r) := by
  obtain ⟨hs, rfl⟩ := convert_eq_some.mp h
  refine convert_eq_some.mpr ⟨hs, ?_⟩
  rw [ha, hb, sub_self, add_zero, add_zero, mul_assoc, mul_div_assoc]

/-- converting back returns the original quantity exactly (offsets included: temperatures too) -/
theorem convert_inverse (bases : List Nat) (x : Rat) (a b : UnitV)
    (hsa : a.scale * (reduce a.dims).2.1 ≠ 0) (hsb : b.scale * (reduce b.dims).2.1 ≠ 0)
    (hsym : sameDims bases (reduce b.dims).1 (reduce a.dims).1 = sameDims bases (reduce a.dims).1 (reduce b.dims).1)
    (y : Rat) (h : convert bases x a b = some y) : convert bases y b a = some x := by
  obtain ⟨hs, rfl⟩ := convert_eq_some.mp h
  refine convert_eq_some.mpr ⟨hsym.trans hs, ?_⟩
  rw [div_mul_cancel₀ _ hsb, add_assoc, sub_add_sub_cancel, sub_self, add_zero, mul_div_cancel_right₀ _ hsa]

/-- going through an intermediate unit gives the same answer as converting directly -/
theorem convert_transitive (bases : List Nat) (x : Rat) (a b c : UnitV)
    (hsb : b.scale * (reduce b.dims).2.1 ≠ 0)
    (y z : Rat) (h1 : convert bases x a b = some y) (h2 : convert bases y b c = some z)
    (hac : sameDims bases (reduce a.dims).1 (reduce c.dims).1 = true) :
    convert bases x a c = some z := by
  obtain ⟨-, rfl⟩ := convert_eq_some.mp h1
  obtain ⟨-, rfl⟩ := convert_eq_some.mp h2
  refine convert_eq_some.mpr ⟨hac, ?_⟩
  rw [div_mul_cancel₀ _ hsb, add_assoc, sub_add_sub_cancel]

/-- plain temperatures convert affinely: 0 °C = 32 °F = 273.15 K, 100 °C = 212 °F, -40 °C = -40 °F -/
theorem temperatures_affine :
    let C : UnitV := ⟨[(celsius, 1)], 1⟩
    let Fh : UnitV := ⟨[(fahrenheit, 1)], 1⟩
    let K : UnitV := ⟨[(kelvin, 1)], 1⟩
    convert [0, 1, 2] 0 C Fh = some 32 ∧ convert [0, 1, 2] 0 C K = some (27315 / 100) ∧
    convert [0, 1, 2] 100 C Fh = some 212 ∧ convert [0, 1, 2] (-40) C Fh = some (-40) ∧
    convert [0, 1, 2] 32 Fh C = some 0 := by
  decide +kernel

/-- inside sums temperatures are scaled only: `x °C + y K = (x + y) °C`, `x K + y °F = x + 5y/9 K` -/
theorem temperatures_relative_in_sums (x y : Rat) :
    addIn [0, 1, 2] x ⟨[(celsius, 1)], 1⟩ y ⟨[(kelvin, 1)], 1⟩ = some (x + y) ∧
    addIn [0, 1, 2] x ⟨[(kelvin, 1)], 1⟩ y ⟨[(fahrenheit, 1)], 1⟩ = some (x + y * (5 / 9)) := by
  constructor <;> simp [addIn, reduce, isExactly, celsius, fahrenheit, kelvin, sameDims, expOf]

/-- the ratios agree with the defining standards (regenerated table, kernel-evaluated) -/
theorem standards_agree : Fend.Gen.standards.all (fun (i, r) => Fend.C11.row i == r) = true :=
  Fend.C11.standards_hold

end Fend.C04
